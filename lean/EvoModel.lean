-- Library root (generated by tools/mkroot.py): everything `lake build` must check.
import EvoModel.Model.Align
import EvoModel.Model.Ape
import EvoModel.Model.Basic
import EvoModel.Model.Config
import EvoModel.Model.Containers
import EvoModel.Model.F64
import EvoModel.Model.FS
import EvoModel.Model.Heap
import EvoModel.Model.Hex
import EvoModel.Model.JVal
import EvoModel.Model.Json
import EvoModel.Model.Lie
import EvoModel.Model.Lin
import EvoModel.Model.Overwrite
import EvoModel.Model.Pairs
import EvoModel.Model.Pipeline
import EvoModel.Model.Plot
import EvoModel.Model.Project
import EvoModel.Model.ResultMerge
import EvoModel.Model.Rpe
import EvoModel.Model.Select
import EvoModel.Model.SettingsProc
import EvoModel.Model.Stats
import EvoModel.Model.StrHex
import EvoModel.Model.Sync
import EvoModel.Model.TextFormats
import EvoModel.Model.Traj
import EvoModel.Model.TrajPipeline
import EvoModel.Model.TrajPlan
import EvoModel.Model.Umeyama
import EvoModel.Gen.DfColumns
import EvoModel.Gen.Formats
import EvoModel.Gen.Options
import EvoModel.Gen.PlotModes
import EvoModel.Gen.Settings
import EvoModel.Gen.TrajOptions
import EvoModel.Gen.Units
import EvoModel.Gen.Writers
import EvoModel.Lemmas.Align
import EvoModel.Lemmas.Argmin
import EvoModel.Lemmas.Atan2
import EvoModel.Lemmas.Bag
import EvoModel.Lemmas.Config
import EvoModel.Lemmas.Containers
import EvoModel.Lemmas.Except
import EvoModel.Lemmas.F64
import EvoModel.Lemmas.FS
import EvoModel.Lemmas.Heap
import EvoModel.Lemmas.Json
import EvoModel.Lemmas.Lie
import EvoModel.Lemmas.LieAtPi
import EvoModel.Lemmas.LieReal
import EvoModel.Lemmas.Lin
import EvoModel.Lemmas.ListAux
import EvoModel.Lemmas.Metrics
import EvoModel.Lemmas.MetricsReal
import EvoModel.Lemmas.Pairs
import EvoModel.Lemmas.Pipeline
import EvoModel.Lemmas.Plot
import EvoModel.Lemmas.QuatAngle
import EvoModel.Lemmas.ReduceIds
import EvoModel.Lemmas.ResultMerge
import EvoModel.Lemmas.SO3
import EvoModel.Lemmas.Select
import EvoModel.Lemmas.SelectF64
import EvoModel.Lemmas.Stats
import EvoModel.Lemmas.StatsReal
import EvoModel.Lemmas.Sync
import EvoModel.Lemmas.TextFormats
import EvoModel.Lemmas.TraceMax
import EvoModel.Lemmas.Traj
import EvoModel.Lemmas.TrajDerived
import EvoModel.Lemmas.Umeyama
import EvoModel.Lemmas.UmeyamaApprox
import EvoModel.Lemmas.UmeyamaUnique
import EvoModel.Props.C01
import EvoModel.Props.C02
import EvoModel.Props.C03
import EvoModel.Props.C04
import EvoModel.Props.C05
import EvoModel.Props.C06
import EvoModel.Props.C07
import EvoModel.Props.C08
import EvoModel.Props.C09
import EvoModel.Props.C10
import EvoModel.Props.C11
import EvoModel.Props.C12
import EvoModel.Props.C13
import EvoModel.Props.C14
import EvoModel.Props.C15
import EvoModel.Props.C16
import EvoModel.Props.C17
import EvoModel.Props.C18
import EvoModel.Props.C19
import EvoModel.Props.C20
