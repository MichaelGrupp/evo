import EvoModel.Props.C01
#print axioms Evo.C01.ape_length
#print axioms Evo.C01.ape_get
#print axioms Evo.C01.apeCore_definition
#print axioms Evo.C01.ape_angle_unit_consistent
#print axioms Evo.C01.ape_refuses_unequal
#print axioms Evo.C01.ape_total_of_rot
#print axioms Evo.C01.ape_refuses_ratio
#print axioms Evo.C01.ape_zero_of_eq
#print axioms Evo.C01.ape_zero_of_eq_list
#print axioms Evo.C01.ape_invariant_common_motion
#print axioms Evo.C01.ape_invariant_common_motion_list
#print axioms Evo.C01.ape_swap
#print axioms Evo.C01.ape_swap_list
#print axioms Evo.C01.ape_value_real_range
#print axioms Evo.C01.ape_value_real_zero
#print axioms Evo.C01.angle_is_geodesic
#print axioms Evo.C01.ape_value_real_laws
#print axioms Evo.C01.ape_core_cast
#print axioms Evo.C01.apePlan_order
#print axioms Evo.C01.apePlan_align
#print axioms Evo.C01.apePlan_onlyScale
#print axioms Evo.C01.apePlan_crop
#print axioms Evo.C01.apePlan_crop_on_ref_before_associate
#print axioms Evo.C01.apePlan_project_after_align
#print axioms Evo.C01.apePlan_metric
#print axioms Evo.C01.apePlan_refusal
#print axioms Evo.C01.apeRun_values_are_apeCore_of_remaining_pairs
#print axioms Evo.C01.apeRun_remaining_pairs_are_the_association
#print axioms Evo.C01.apeRun_refusals
#print axioms Evo.C01.apeRun_refusal_causes
