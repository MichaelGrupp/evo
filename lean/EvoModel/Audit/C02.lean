import EvoModel.Props.C02
#print axioms Evo.C02.rpe_kept
#print axioms Evo.C02.rpe_length_eq_delta_ids
#print axioms Evo.C02.rpe_delta_ids_are_pair_ends
#print axioms Evo.C02.rpe_get
#print axioms Evo.C02.rpeCore_definition
#print axioms Evo.C02.rpe_refuses_unequal
#print axioms Evo.C02.rpe_ratio_skips_exactly_zero_ref
#print axioms Evo.C02.rpe_invariant_separate_motions
#print axioms Evo.C02.rpe_invariant_separate_motions_list
#print axioms Evo.C02.rpe_zero_of_same_relative_motion
#print axioms Evo.C02.rpe_zero_of_moved_copy
#print axioms Evo.C02.rpe_value_real_laws
#print axioms Evo.C02.rpe_core_cast
#print axioms Evo.C02.rpePlan_order
#print axioms Evo.C02.rpePlan_reduces_to_first_and_pair_ends
#print axioms Evo.C02.rpePlan_align
#print axioms Evo.C02.rpePlan_onlyScale
#print axioms Evo.C02.rpePlan_crop
#print axioms Evo.C02.rpePlan_crop_on_ref_before_associate
#print axioms Evo.C02.rpePlan_project_after_align
#print axioms Evo.C02.rpeRun_values_are_rpeCore_of_selected_pairs
#print axioms Evo.C02.rpeRun_refusals
#print axioms Evo.C02.rpeRun_pair_selection_refusals
