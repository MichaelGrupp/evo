import EvoModel.Props.C03
#print axioms Evo.C03.resid_decomp
#print axioms Evo.C03.traceMax_of_cert
#print axioms Evo.C03.umeyama_proper
#print axioms Evo.C03.umeyama_scale_pos
#print axioms Evo.C03.umeyama_optimal_rigid
#print axioms Evo.C03.umeyama_optimal_sim
#print axioms Evo.C03.umeyama_optimal_field
#print axioms Evo.C03.umeyama_optimal_approx
#print axioms Evo.C03.umeyama_optimal_approx_checked
#print axioms Evo.C03.umeyama_refuses_degenerate
#print axioms Evo.C03.umeyama_noise_free
#print axioms Evo.C03.umeyama_unique
#print axioms Evo.C03.umeyama_resid_equivariant
#print axioms Evo.C03.umeyama_equivariant
