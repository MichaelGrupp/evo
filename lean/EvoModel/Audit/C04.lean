import EvoModel.Props.C04
#print axioms Evo.C04.align_is_similarity
#print axioms Evo.C04.align_scaleOnly
#print axioms Evo.C04.align_length
#print axioms Evo.C04.align_uses_firstN
#print axioms Evo.C04.align_refuses_unequal
#print axioms Evo.C04.alignOrigin_first_pose
#print axioms Evo.C04.alignOrigin_preserves_rel
#print axioms Evo.C04.alignOrigin_refuses_empty
#print axioms Evo.C04.align_sse_eq_resid
#print axioms Evo.C04.align_rmse_optimal
#print axioms Evo.C04.align_rmse_not_worse
#print axioms Evo.C04.align_twice_identity
#print axioms Evo.C04.recorded_matrix_maps_unaligned_to_stored
#print axioms Evo.C04.recorded_matrix_counterexample_scaleOnly
#print axioms Evo.C04.recorded_matrix_counterexample_scale_then_origin
#print axioms Evo.C04.scale_after_transform_differs
