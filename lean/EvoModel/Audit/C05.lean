import EvoModel.Props.C05
#print axioms Evo.C05.match_within_and_nearest
#print axioms Evo.C05.match_fst_strictly_increasing
#print axioms Evo.C05.match_snd_nodup
#print axioms Evo.C05.match_complete
#print axioms Evo.C05.match_contested_keeps_closest
#print axioms Evo.C05.raw_snd_monotone
#print axioms Evo.C05.match_snd_strictly_increasing
#print axioms Evo.C05.associate_equal_length
#print axioms Evo.C05.associate_refuses_empty
#print axioms Evo.C05.associate_offset_both_orderings
#print axioms Evo.C05.associate_poses_are_input_poses
#print axioms Evo.C05.match_snd_dup_counterexample
#print axioms Evo.C05.match_snd_dup_repaired
