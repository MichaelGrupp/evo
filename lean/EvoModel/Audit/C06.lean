import EvoModel.Props.C06
#print axioms Evo.C06.savetxt_formats_lossless
#print axioms Evo.C06.f64_roundtrip_of_close
#print axioms Evo.C06.digits_suffice
#print axioms Evo.C06.close_sound
#print axioms Evo.C06.rne_nearest
#print axioms Evo.C06.rne_roundtrip_of_close
#print axioms Evo.C06.rne_id_on_f64
#print axioms Evo.C06.goodTok_of_tokenOK
#print axioms Evo.C06.tum_roundtrip
#print axioms Evo.C06.kitti_roundtrip
#print axioms Evo.C06.json_string_roundtrip
#print axioms Evo.C06.json_number_roundtrip
#print axioms Evo.C06.bag_stamp_error
#print axioms Evo.C06.bag_stamp_exact_of_coarse
#print axioms Evo.C06.bag_stamp_1ns_counterexample
#print axioms Evo.C06.df_roundtrip
#print axioms Evo.C06.res_archive_roundtrip
#print axioms Evo.C06.res_member_names_distinct
