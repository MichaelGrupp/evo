import EvoModel.Props.C07
#print axioms Evo.C07.tum_slots
#print axioms Evo.C07.kitti_slots
#print axioms Evo.C07.euroc_slots
#print axioms Evo.C07.read_all_or_nothing
#print axioms Evo.C07.tum_all_or_nothing
#print axioms Evo.C07.tum_row_count
#print axioms Evo.C07.reject_wrong_column_count_any_row
#print axioms Evo.C07.reject_non_numeric_any_field
#print axioms Evo.C07.reject_trailing_delimiter
#print axioms Evo.C07.reject_blank_row
#print axioms Evo.C07.reject_no_rows
#print axioms Evo.C07.comments_ignored
#print axioms Evo.C07.bom_crlf_ignored
#print axioms Evo.C07.layout_then_read
#print axioms Evo.C07.layout_then_read_kitti
#print axioms Evo.C07.json_slots
#print axioms Evo.C07.json_missing_key_rejected
#print axioms Evo.C07.quat_to_rot_convention
#print axioms Evo.C07.transform_rejected_if_not_sim3
#print axioms Evo.C07.sim3_exact_accepted
