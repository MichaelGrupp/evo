import EvoModel.Props.C08
#print axioms Evo.C08.inv_same_count
#print axioms Evo.C08.inv_init_from_se3
#print axioms Evo.C08.inv_init_from_pos_quat
#print axioms Evo.C08.step_preserves_inv
#print axioms Evo.C08.reachable_inv
#print axioms Evo.C08.read_refines_spec
#print axioms Evo.C08.views_describe_same_poses
#print axioms Evo.C08.derived_quantities
#print axioms Evo.C08.spec_transform_poses
#print axioms Evo.C08.transformL_effect
#print axioms Evo.C08.transformR_effect
#print axioms Evo.C08.transformProp_effect
#print axioms Evo.C08.spec_scale_poses
#print axioms Evo.C08.scale_effect
#print axioms Evo.C08.unscale_sim3_mul
#print axioms Evo.C08.similarity_effect
#print axioms Evo.C08.align_effect
#print axioms Evo.C08.reduce_effect
#print axioms Evo.C08.reduceInt_effect
#print axioms Evo.C08.project_effect
#print axioms Evo.C08.copy_read_check_effect
#print axioms Evo.C08.transformFull_proper
#print axioms Evo.C08.transform_proper
#print axioms Evo.C08.rigid_preserved
#print axioms Evo.C08.rigid_preserved_run
#print axioms Evo.C08.check_passes
#print axioms Evo.C08.reduce_stampsOk
#print axioms Evo.C08.stamps_ascending_preserved
#print axioms Evo.C08.stamps_ascending_run
#print axioms Evo.C08.check_valid_after_history
#print axioms Evo.C08.sim3_transform_not_rigid_without_normalisation
#print axioms Evo.C08.segSq_left_rigid
#print axioms Evo.C08.transformL_keeps_step_lengths
#print axioms Evo.C08.segSq_scale
#print axioms Evo.C08.scale_scales_step_lengths
#print axioms Evo.C08.similarity_scales_step_lengths
#print axioms Evo.C08.reduce_consecutive_keeps_steps
#print axioms Evo.C08.transformR_changes_step_lengths_counterexample
#print axioms Evo.C08.stamps_unchanged_by_geometric_ops
#print axioms Evo.C08.stamps_unchanged_unless_selection
