import EvoModel.Props.C09
#print axioms Evo.C09.vee_hat
#print axioms Evo.C09.hat_vee
#print axioms Evo.C09.hat_is_cross
#print axioms Evo.C09.se3_inv_mul
#print axioms Evo.C09.se3_mul_inv
#print axioms Evo.C09.rel_eq_inv_mul
#print axioms Evo.C09.rel_self
#print axioms Evo.C09.rel_so3_laws
#print axioms Evo.C09.se3_closed
#print axioms Evo.C09.sim3_inv_mul
#print axioms Evo.C09.sim3_inv_is_sim3
#print axioms Evo.C09.sim3_scale_recovered_partial
#print axioms Evo.C09.sim3_scale_unique
#print axioms Evo.C09.angle_range
#print axioms Evo.C09.angle_symm
#print axioms Evo.C09.angle_left_invariant
#print axioms Evo.C09.angle_right_invariant
#print axioms Evo.C09.angle_cos_one_iff_eq
#print axioms Evo.C09.angle_zero_iff_eq
#print axioms Evo.C09.exp_zero
#print axioms Evo.C09.exp_is_rotation
#print axioms Evo.C09.log_exp_partial
#print axioms Evo.C09.exp_log_partial
#print axioms Evo.C09.so3_accepts_rotations
#print axioms Evo.C09.se3_accepts_rigid
#print axioms Evo.C09.so3_rejects_reflection
#print axioms Evo.C09.so3_rejects_scaled
#print axioms Evo.C09.so3_rejects_scaled_diag
#print axioms Evo.C09.so3_rejects_sheared
#print axioms Evo.C09.se3_rejects_bottom_row
#print axioms Evo.C09.sim3_accepts_scaled_rotation
#print axioms Evo.C09.sim3_scale_recovered
#print axioms Evo.C09.angle_range_real
#print axioms Evo.C09.rot_angle_facts
#print axioms Evo.C09.angle_eq_arccos
#print axioms Evo.C09.angle_symm_real
#print axioms Evo.C09.angle_left_invariant_real
#print axioms Evo.C09.angle_right_invariant_real
#print axioms Evo.C09.angle_zero_iff_eq_real
#print axioms Evo.C09.angle_triangle
#print axioms Evo.C09.angle_is_biinvariant_metric
#print axioms Evo.C09.exp_is_rotation_real
#print axioms Evo.C09.exp_zero_real
#print axioms Evo.C09.log_exp_real_partial
#print axioms Evo.C09.log_one_real
#print axioms Evo.C09.exp_log_real_partial
#print axioms Evo.C09.rxPi_isRot
#print axioms Evo.C09.rxPi_core
#print axioms Evo.C09.rSwapPi_isRot
#print axioms Evo.C09.rSwapPi_core
#print axioms Evo.C09.exp_log_real
#print axioms Evo.C09.exp_of_any_pi_log
#print axioms Evo.C09.log_exp_pi_unit
#print axioms Evo.C09.log_exp_real_at_pi
#print axioms Evo.C09.log_exp_real
