import EvoModel.Props.C10
#print axioms Evo.C10.accDist_spec
#print axioms Evo.C10.accDist_diff_eq_span
#print axioms Evo.C10.index_all_iff
#print axioms Evo.C10.index_all_sorted
#print axioms Evo.C10.index_consec_chain
#print axioms Evo.C10.index_consec_iff
#print axioms Evo.C10.pairs_bounds_index
#print axioms Evo.C10.consec_is_chain_path
#print axioms Evo.C10.consec_is_chain_angle
#print axioms Evo.C10.consec_j_first_reaching_path
#print axioms Evo.C10.consec_j_first_reaching_angle
#print axioms Evo.C10.consec_start_not_later_than_first_reach_path
#print axioms Evo.C10.consec_start_not_later_than_first_reach_angle
#print axioms Evo.C10.consec_maximal_path
#print axioms Evo.C10.consec_maximal_angle
#print axioms Evo.C10.consec_empty_angle
#print axioms Evo.C10.consec_empty_path
#print axioms Evo.C10.pathConsec_eq_angleConsec_tail
#print axioms Evo.C10.pathAll_within_tol
#print axioms Evo.C10.pathAll_j_closest
#print axioms Evo.C10.pathAll_every_i_once
#print axioms Evo.C10.angleAll_iff
#print axioms Evo.C10.angle_dispatch
#print axioms Evo.C10.pairs_bounds_path
#print axioms Evo.C10.pairs_bounds_angle
#print axioms Evo.C10.empty_is_filter_error
#print axioms Evo.C10.angleAll_iff_rel
#print axioms Evo.C10.pathAll_within_rel_tol
#print axioms Evo.C10.pairs_bounds
#print axioms Evo.C10.rpe_route
#print axioms Evo.C10.pathAll_pairs_sorted_nodup
#print axioms Evo.C10.angleAll_pairs_sorted_nodup
#print axioms Evo.C10.angleAll_iff_rel_degrees
