import EvoModel.Props.C11
#print axioms Evo.C11.downsample_noop_if_small
#print axioms Evo.C11.downsample_refuses_zero
#print axioms Evo.C11.linspace_count
#print axioms Evo.C11.linspace_last
#print axioms Evo.C11.linspace_first
#print axioms Evo.C11.linspace_rounding_matters
#print axioms Evo.C11.linspace_in_envelope
#print axioms Evo.C11.envelope_props
#print axioms Evo.C11.linspace_strict_mono
#print axioms Evo.C11.linspace_even
#print axioms Evo.C11.downsampleWith_spec
#print axioms Evo.C11.downsample_count
#print axioms Evo.C11.rne_is_f64_rounding
#print axioms Evo.C11.size_ok
#print axioms Evo.C11.downsample_spec_evo
#print axioms Evo.C11.downsample_count_evo
#print axioms Evo.C11.downsample_keeps_first_last_evo
#print axioms Evo.C11.linspace_even_evo
#print axioms Evo.C11.downsample_preserves_order_evo
#print axioms Evo.C11.motion_refuses
#print axioms Evo.C11.motion_ok
#print axioms Evo.C11.motion_keeps_first
#print axioms Evo.C11.motion_ids_increasing
#print axioms Evo.C11.motion_keep_iff
#print axioms Evo.C11.motionGo_acc_eq_steps
#print axioms Evo.C11.motionFilter_steps_formulation_agrees
#print axioms Evo.C11.motion_keep_iff_lens_steps
#print axioms Evo.C11.crop_iff
#print axioms Evo.C11.crop_refuses_iff
#print axioms Evo.C11.crop_ids_increasing
#print axioms Evo.C11.crop_preserves_order
#print axioms Evo.C11.split_concat
#print axioms Evo.C11.split_cut_exceeds
#print axioms Evo.C11.split_no_big_step_inside
#print axioms Evo.C11.splitTime_concat
#print axioms Evo.C11.splitDist_concat
#print axioms Evo.C11.splitDist_acc_formulation_agrees
#print axioms Evo.C11.splitSpeed_concat
#print axioms Evo.C11.merge_order_perm
#print axioms Evo.C11.merge_sorted
#print axioms Evo.C11.merge_keeps_triples
#print axioms Evo.C11.merge_perm
#print axioms Evo.C11.selection_preserves_order
#print axioms Evo.C11.selection_keeps_pose_quat_stamp_together
