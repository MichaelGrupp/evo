import EvoModel.Props.C12
#print axioms Evo.C12.sse_eq_n_mul_meanSq
#print axioms Evo.C12.rmse_sq_eq_mean_sq_add_var
#print axioms Evo.C12.mean_sq_le_meanSq
#print axioms Evo.C12.mean_le_rmse
#print axioms Evo.C12.min_le_mean
#print axioms Evo.C12.mean_le_max
#print axioms Evo.C12.meanSq_le_max_sq
#print axioms Evo.C12.rmse_le_max
#print axioms Evo.C12.min_le_mean_le_rmse_le_max
#print axioms Evo.C12.median_sorted_permutation
#print axioms Evo.C12.min_le_median_le_max
#print axioms Evo.C12.min_max_are_extremal_values
#print axioms Evo.C12.constant_array
#print axioms Evo.C12.convert_allowed_iff
#print axioms Evo.C12.factor_def
#print axioms Evo.C12.factor_self
#print axioms Evo.C12.factor_isSome_iff
#print axioms Evo.C12.factor_comp_table
#print axioms Evo.C12.factor_comp
#print axioms Evo.C12.meter_factors_table
#print axioms Evo.C12.model_matches_observed
#print axioms Evo.C12.change_unit_scales
#print axioms Evo.C12.refused_leaves_values
#print axioms Evo.C12.change_unit_result
#print axioms Evo.C12.relation_units
#print axioms Evo.C12.unit_after_change
#print axioms Evo.C12.label_names_metric_and_unit
#print axioms Evo.C12.rpe_label_names_metric_and_unit
#print axioms Evo.C12.earlier_result_unchanged
#print axioms Evo.C12.f11_counterexample
#print axioms Evo.C12.reprocess_names_native_unit
#print axioms Evo.C12.refused_process_keeps_unit_and_values
#print axioms Evo.C12.accepted_process_is_reset
#print axioms Evo.C12.early_reset_counterexample
#print axioms Evo.C12.metric_reuse_keeps_converted_unit_counterexample
#print axioms Evo.C12.ape_companions_length
#print axioms Evo.C12.ape_companions_refer_to_pose
#print axioms Evo.C12.stored_traj_is_processed_one
#print axioms Evo.C12.rpe_companions_length
#print axioms Evo.C12.rpe_companions_refer_to_pose
#print axioms Evo.C12.ratio_filter_aligned
#print axioms Evo.C12.rmse_real_sq
#print axioms Evo.C12.rmse_real_nonneg
#print axioms Evo.C12.std_real_sq
#print axioms Evo.C12.std_real_nonneg
#print axioms Evo.C12.rmse_sq_eq_mean_sq_add_std_sq_real
#print axioms Evo.C12.sse_eq_n_mul_rmse_sq_real
#print axioms Evo.C12.mean_le_rmse_real
#print axioms Evo.C12.rmse_le_max_real
#print axioms Evo.C12.min_le_mean_le_rmse_le_max_real
#print axioms Evo.C12.min_le_median_le_max_real
#print axioms Evo.C12.std_le_rmse_real
#print axioms Evo.C12.std_real_zero_iff_constant
#print axioms Evo.C12.constant_array_real
#print axioms Evo.C12.rmse_real_scale
#print axioms Evo.C12.std_real_scale
#print axioms Evo.C12.rational_stats_scale
#print axioms Evo.C12.change_unit_scales_statistics
