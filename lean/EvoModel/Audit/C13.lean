import EvoModel.Props.C13
#print axioms Evo.C13.merge_single_identity
#print axioms Evo.C13.merge_refuses_empty
#print axioms Evo.C13.merge_refuses_key_mismatch
#print axioms Evo.C13.merge_accepts_equal_keys
#print axioms Evo.C13.merge_info_of_first
#print axioms Evo.C13.merge_stats_mean
#print axioms Evo.C13.merge_average_when_equal_lengths
#print axioms Evo.C13.merge_concat_otherwise_in_order
#print axioms Evo.C13.merge_strategy_is_per_key
#print axioms Evo.C13.merge_strategy_counterexample
#print axioms Evo.C13.label_is_filename_or_estimate_basename
#print axioms Evo.C13.basename_spec
#print axioms Evo.C13.table_rows_are_file_stats
#print axioms Evo.C13.table_refuses_duplicate_labels
#print axioms Evo.C13.table_merge_row
