import EvoModel.Props.C14
#print axioms Evo.C14.dir_unit_unique
#print axioms Evo.C14.isUnit_of_circle
#print axioms Evo.C14.project_out_of_plane_zero
#print axioms Evo.C14.project_in_plane_kept
#print axioms Evo.C14.project_pure_rotation_about_normal
#print axioms Evo.C14.project_rigid
#print axioms Evo.C14.projectPoses_spec
#print axioms Evo.C14.project_count_order_stamps
#print axioms Evo.C14.project_twice_refused
#print axioms Evo.C14.project_planar_heading
#print axioms Evo.C14.project_xy_fixes_planar
#print axioms Evo.C14.project_yz_fixes_planar
#print axioms Evo.C14.project_xz_planar_heading
#print axioms Evo.C14.project_xz_fixes_planar_partial
#print axioms Evo.C14.project_xz_changes_beyond_90
#print axioms Evo.C14.project_xy_fixes_planar_real
#print axioms Evo.C14.project_yz_fixes_planar_real
#print axioms Evo.C14.project_xz_fixes_planar_real_partial
#print axioms Evo.C14.project_xz_mirrors_beyond_90_real
#print axioms Evo.C14.project_xz_counterexample_real
#print axioms Evo.C14.dir_unit_exists
#print axioms Evo.C14.project_direction_exists
#print axioms Evo.C14.project_xz_counterexample
