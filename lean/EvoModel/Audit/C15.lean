import EvoModel.Props.C15
#print axioms Evo.C15.kinds_ok
#print axioms Evo.C15.trajPlan_ok
#print axioms Evo.C15.opt_rank_sublist
#print axioms Evo.C15.mem_opt
#print axioms Evo.C15.plane_rank_sublist
#print axioms Evo.C15.exports_rank_sublist
#print axioms Evo.C15.kinds_order
#print axioms Evo.C15.rank_attach
#print axioms Evo.C15.trajPlan_order
#print axioms Evo.C15.refPlan_order
#print axioms Evo.C15.mem_plane
#print axioms Evo.C15.mem_kinds
#print axioms Evo.C15.synced_of_alignOrigin
#print axioms Evo.C15.synced_of_align
#print axioms Evo.C15.steps_present_iff
#print axioms Evo.C15.align_wiring
#print axioms Evo.C15.transform_right_selects_right_mul
#print axioms Evo.C15.both_flags_counterexample_prefix
#print axioms Evo.C15.both_transforms_left_then_right
#print axioms Evo.C15.values_wiring
#print axioms Evo.C15.refPlan_only_downsample_filter_project
#print axioms Evo.C15.tOffset_not_on_reference
#print axioms Evo.C15.refPlan_present_iff
#print axioms Evo.C15.no_options_kinds
#print axioms Evo.C15.trajPlan_no_options_is_identity
#print axioms Evo.C15.applyTransform_get
#print axioms Evo.C15.propagate_only_with_right
#print axioms Evo.C15.propagateRight_step
#print axioms Evo.C15.isSe3Tol_of_rot
#print axioms Evo.C15.invert_is_true_inverse_se3
#print axioms Evo.C15.invert_is_true_inverse_sim3
#print axioms Evo.C15.invert_is_true_inverse
#print axioms Evo.C15.invert_sim3_counterexample_prefix
#print axioms Evo.C15.invert_sim3_repaired
#print axioms Evo.C15.runSteps_append
#print axioms Evo.C15.runSteps_opt
#print axioms Evo.C15.runSteps_optPlane
#print axioms Evo.C15.runSteps_is_documented_pipeline
#print axioms Evo.C15.refSteps_is_documented
#print axioms Evo.C15.trajRun_is_documented_pipeline
#print axioms Evo.C15.trajRun_dies
#print axioms Evo.C15.stepRun_unfold
#print axioms Evo.C15.options_table_matches_model
#print axioms Evo.C15.align_alignOrigin_mutually_exclusive
#print axioms Evo.C15.subcommands_present
