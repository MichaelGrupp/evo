import EvoModel.Props.C16
#print axioms Evo.C16.ops_are_local
#print axioms Evo.C16.sep_preserved_by_ops
#print axioms Evo.C16.sep_implies_noninterference
#print axioms Evo.C16.noninterference_values
#print axioms Evo.C16.derive_fresh
#print axioms Evo.C16.derive_fresh_sep
#print axioms Evo.C16.derived_then_mutated_leaves_source
#print axioms Evo.C16.merge_then_mutated_leaves_inputs
#print axioms Evo.C16.align_keeps_reference
#print axioms Evo.C16.merge_results_fresh_sep
#print axioms Evo.C16.split_fresh_sep
#print axioms Evo.C16.split_single_pose_fresh
#print axioms Evo.C16.split_parent_sep_parts
#print axioms Evo.C16.split_shares_cells
#print axioms Evo.C16.split_nocut_returns_parent
#print axioms Evo.C16.split_then_project_changes_parent
#print axioms Evo.C16.split_then_project_keeps_parent
#print axioms Evo.C16.scale_inplace_differs_on_self_alias
