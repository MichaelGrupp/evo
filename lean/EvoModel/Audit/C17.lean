import EvoModel.Props.C17
#print axioms Evo.C17.confirm_only_y
#print axioms Evo.C17.confirm_eq_false
#print axioms Evo.C17.writerStep_wrote
#print axioms Evo.C17.declined_keeps_file
#print axioms Evo.C17.accepted_or_disabled_replaces
#print axioms Evo.C17.no_prompt_if_absent
#print axioms Evo.C17.prompts_iff_exists_and_enabled
#print axioms Evo.C17.file_is_old_or_new
#print axioms Evo.C17.multi_figure_export_stops_at_first_decline
#print axioms Evo.C17.multi_figure_export_disabled_writes_all
#print axioms Evo.C17.Guard.run_eq
#print axioms Evo.C17.all_writers_guarded
#print axioms Evo.C17.no_unexpected_writer
#print axioms Evo.C17.table_guards_behave_as_writerStep
#print axioms Evo.C17.all_cli_sites_pass_not_no_warnings
#print axioms Evo.C17.no_assignment_to_confirm_flags
#print axioms Evo.C17.every_output_option_has_cli_site
#print axioms Evo.C17.cli_flag_value
#print axioms Evo.C17.cli_declined_keeps_file
#print axioms Evo.C17.cli_accepted_or_disabled_writes
#print axioms Evo.C17.generate_out_guarded
#print axioms Evo.C17.confirm_shape_is_equality
