import EvoModel.Props.C18
#print axioms Evo.C18.set_keys_invariant
#print axioms Evo.C18.set_changes_only_named
#print axioms Evo.C18.set_bool_stays_bool
#print axioms Evo.C18.set_list_stays_list
#print axioms Evo.C18.set_bool_explicit
#print axioms Evo.C18.set_numeric_tokens_are_numbers
#print axioms Evo.C18.reset_subset_restores_exactly
#print axioms Evo.C18.reset_subset_keys_invariant
#print axioms Evo.C18.merge_hard_soft_semantics
#print axioms Evo.C18.upgrade_adds_missing_keeps_user_values
#print axioms Evo.C18.locked_rejects_unknown
#print axioms Evo.C18.mergeConfig_config_wins
#print axioms Evo.C18.mergeConfig_settings_override_not_persisted
#print axioms Evo.C18.applyOp_edit_keys
#print axioms Evo.C18.applyOp_default_keys
#print axioms Evo.C18.applyOps_induction
#print axioms Evo.C18.history_set_reset_keys_invariant
#print axioms Evo.C18.history_default_keys_stay
#print axioms Evo.C18.generate_groups
#print axioms Evo.C18.generate_value_int
#print axioms Evo.C18.generate_value_float
#print axioms Evo.C18.number_is_not_option
#print axioms Evo.C18.optApprox_refl
#print axioms Evo.C18.generate_equiv_args
#print axioms Evo.C18.option_names_nodup
#print axioms Evo.C18.option_tokens_ok
#print axioms Evo.C18.generate_equiv_args_evo
#print axioms Evo.C18.generate_equiv_args_instances
#print axioms Evo.C18.generate_int_counterexample
#print axioms Evo.C18.generate_negative_counterexample
#print axioms Evo.C18.option_tables_modelled
#print axioms Evo.C18.default_keys_nodup
#print axioms Evo.C18.config_override_reaches_call
#print axioms Evo.C18.f16_counterexample
