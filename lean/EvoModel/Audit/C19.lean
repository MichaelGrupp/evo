import EvoModel.Props.C19
#print axioms Evo.C19.writeS_accepted
#print axioms Evo.C19.update_load_accepted
#print axioms Evo.C19.start_accepted
#print axioms Evo.C19.done_accepted
#print axioms Evo.C19.resetAll_accepted
#print axioms Evo.C19.setConfig_accepted
#print axioms Evo.C19.resetSubset_accepted
#print axioms Evo.C19.mergeUnion_accepted
#print axioms Evo.C19.showCfg_accepted
#print axioms Evo.C19.keyMono_id
#print axioms Evo.C19.keyMono_mergeEdit
#print axioms Evo.C19.traced_programs_accepted
#print axioms Evo.C19.old_start_rejected
#print axioms Evo.C19.safe_init
#print axioms Evo.C19.fresh_consistent
#print axioms Evo.C19.step_preserves_safe
#print axioms Evo.C19.reachable_safe
#print axioms Evo.C19.reachable_good
#print axioms Evo.C19.no_process_fails
#print axioms Evo.C19.done_loaded
#print axioms Evo.C19.finished_process_sees_all_keys
#print axioms Evo.C19.size_zero_done
#print axioms Evo.C19.sched_self
#print axioms Evo.C19.solo_finishes
#print axioms Evo.C19.start_after_any_run_loads
#print axioms Evo.C19.outdated_home_consistent
#print axioms Evo.C19.every_outdated_version_is_upgraded
#print axioms Evo.C19.inconsistent_home_stays_incomplete
#print axioms Evo.C19.settings_unsafe_crash
#print axioms Evo.C19.settings_unsafe_torn
#print axioms Evo.C19.later_start_fails_forever
#print axioms Evo.C19.settings_unsafe_race_load
#print axioms Evo.C19.settings_unsafe_race_mkdir
#print axioms Evo.C19.old_set_crash_loses_settings
