import EvoModel.Props.C20
#print axioms Evo.C20.gen_modeIdx_matches_model
#print axioms Evo.C20.gen_axisLabels_match_model
#print axioms Evo.C20.gen_units_match_model
#print axioms Evo.C20.labels_name_plotted_axes
#print axioms Evo.C20.labels_table_complete
#print axioms Evo.C20.labels_name_plotted_axes_model
#print axioms Evo.C20.modeIdx_names_axes
#print axioms Evo.C20.modeIdx_injective_on_2d_modes
#print axioms Evo.C20.modeIdx_injective_on_2d_modes_model
#print axioms Evo.C20.zIdx_some_iff_xyz
#print axioms Evo.C20.point_eq
#print axioms Evo.C20.trajLine_get
#print axioms Evo.C20.trajLine_length
#print axioms Evo.C20.startEnd_is_first_last
#print axioms Evo.C20.startEnd_empty
#print axioms Evo.C20.segments_get
#print axioms Evo.C20.segments_length
#print axioms Evo.C20.stridePairs_get
#print axioms Evo.C20.stridePairs_length
#print axioms Evo.C20.coloredLineCollection_refuses_iff
#print axioms Evo.C20.coloredLineCollection_of_length
#print axioms Evo.C20.coloredLineCollection_get
#print axioms Evo.C20.colormap_segment_value_get
#print axioms Evo.C20.correspondence_edge_get
#print axioms Evo.C20.correspondence_refused_when_lengths_differ
#print axioms Evo.C20.coordAxes_drawn
#print axioms Evo.C20.coordAxes_nothing_when_scale_nonpositive
#print axioms Evo.C20.coordAxes_segment
#print axioms Evo.C20.coordAxes_start_is_position
#print axioms Evo.C20.coordAxes_direction_is_pose_axis
#print axioms Evo.C20.time_axis_shift
#print axioms Evo.C20.time_axis_shift_exact
#print axioms Evo.C20.time_axis_no_start
#print axioms Evo.C20.time_axis_index
#print axioms Evo.C20.xyzSeries_get
#print axioms Evo.C20.rpySeries_get
#print axioms Evo.C20.speed_at_newer_stamp
#print axioms Evo.C20.speedCores_get
#print axioms Evo.C20.errorSeries_get
#print axioms Evo.C20.errorSeries_index
