/-
Lemmas for C04 (trajectory alignment). `alignApply` and `alignOrigin` pose by pose; `moveBy M σ`, the
reading of a recorded 4×4 matrix as a map on poses, turns left multiplication into the matrix product;
the squared position error after a similarity is the Umeyama residual of that similarity (`sse_map`),
which makes the RMSE statements of C04 corollaries of C03.
-/
import EvoModel.Model.Align
import EvoModel.Lemmas.Umeyama
namespace Evo.Align
open Evo Evo.Ume

variable {K : Type} [Field K]

theorem moveBy_mul (T m : Pose K) (σ : K) : moveBy (T.mul m) σ = fun p => T.mul (moveBy m σ p) := by
  funext p
  simp only [moveBy, Pose.mul]
  rw [M3.smul_mul, M3.smul_mul, M3.mul_smul, M3.mul_assoc', M3.mulVec_add, M3.mulVec_mulVec, V3.add_assoc']

theorem moveBy_sim3 (R : M3 K) (t : V3 K) (s : K) (hs : s ≠ 0) :
    moveBy (Pose.sim3 R t s) s = fun p => ⟨R.mul p.rot, simApply R t s p.t⟩ := by
  funext p
  simp only [moveBy, Pose.sim3, simApply]
  rw [M3.smul_smul_cancel (one_div_mul_cancel hs), M3.smul_mulVec]

theorem moveBy_scale (s : K) (hs : s ≠ 0) :
    moveBy (Pose.sim3 M3.one V3.zero s) s = fun p => ⟨p.rot, V3.smul s p.t⟩ := by
  rw [moveBy_sim3 M3.one V3.zero s hs]
  funext p
  rw [M3.one_mul', simApply, M3.one_mulVec, V3.add_zero']

theorem moveBy_rigid (T : Pose K) : moveBy T 1 = fun p => T.mul p := by
  funext p
  simp only [moveBy, Pose.mul, one_div_one, M3.one_smul']

theorem alignApply_sim3 (R : M3 K) (t : V3 K) (s : K) (ps : List (Pose K)) :
    alignApply .sim3 R t s ps = ps.map (fun p => ⟨R.mul p.rot, simApply R t s p.t⟩) := by
  simp only [alignApply, transformLeft, scalePath, List.map_map]
  apply List.map_congr_left
  intro p _
  simp only [Function.comp, Pose.mul, se3, simApply, M3.mulVec_smul]

theorem alignApply_se3 (R : M3 K) (t : V3 K) (s : K) (ps : List (Pose K)) :
    alignApply .se3 R t s ps = ps.map (fun p => ⟨R.mul p.rot, simApply R t 1 p.t⟩) := by
  simp only [alignApply, transformLeft]
  apply List.map_congr_left
  intro p _
  simp only [Pose.mul, se3, simApply, V3.one_smul']

theorem alignApply_scaleOnly (R : M3 K) (t : V3 K) (s : K) (ps : List (Pose K)) :
    alignApply .scaleOnly R t s ps = ps.map (fun p => ⟨p.rot, V3.smul s p.t⟩) := rfl

theorem alignOrigin_eq_some {ref est ps : List (Pose K)} {T : Pose K} (h : alignOrigin ref est = some (T, ps)) :
    (∃ r0 rs e0 es, ref = r0 :: rs ∧ est = e0 :: es ∧ T = r0.mul e0.inv) ∧ ps = transformLeft T est := by
  cases ref with
  | nil => simp [alignOrigin] at h
  | cons r0 rs =>
    cases est with
    | nil => simp [alignOrigin] at h
    | cons e0 es =>
      simp only [alignOrigin, Option.some.injEq, Prod.mk.injEq] at h
      exact ⟨⟨r0, rs, e0, es, rfl, rfl, h.1.symm⟩, h.1 ▸ h.2.symm⟩

theorem firstN_neg_one {α : Type} (l : List α) : firstN (-1) l = l := by simp [firstN]

theorem firstN_map {α β : Type} (f : α → β) (n : Int) (l : List α) : firstN n (l.map f) = (firstN n l).map f := by
  unfold firstN
  split_ifs <;> simp [List.map_take]

theorem firstN_append {α : Type} (n : Int) (hn : 0 ≤ n) (a b : List α) (ha : a.length = n.toNat) :
    firstN n (a ++ b) = a := by
  unfold firstN
  have h1 : n ≠ -1 := by omega
  rw [if_neg h1, if_pos hn, ← ha, List.take_left']
  rfl

theorem sse_map (x y : List (V3 K)) (R : M3 K) (t : V3 K) (c : K) :
    sse (x.map (simApply R t c)) y = resid x y R t c := by
  unfold sse resid
  rw [List.zip_map_left, sumMap_map]
  rfl

theorem simApply_id (p : V3 K) : simApply M3.one V3.zero 1 p = p := by
  rw [simApply, M3.one_mulVec, V3.one_smul', V3.add_zero']

theorem sse_eq_resid_id (x y : List (V3 K)) : sse x y = resid x y M3.one V3.zero 1 := by
  unfold sse resid
  apply sumMap_congr
  intro p
  rw [simApply_id]

theorem resid_map_comp (x y : List (V3 K)) (R' R : M3 K) (t' t : V3 K) (c' c : K) :
    resid (x.map (simApply R t c)) y R' t' c'
      = resid x y (R'.mul R) (V3.add (V3.smul c' (R'.mulVec t)) t') (c' * c) := by
  unfold resid
  rw [List.zip_map_left, sumMap_map]
  exact sumMap_congr _ fun p => by rw [Prod.map_fst, Prod.map_snd, simApply_comp]; rfl

end Evo.Align
