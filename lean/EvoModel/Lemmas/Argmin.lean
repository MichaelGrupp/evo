/-
`absR` is the absolute value, and what the first-minimiser search `argminFirst` of `Model/Basic.lean` returns
(the time association and the all-pairs path selector search with it).
-/
import EvoModel.Model.Basic
import Mathlib.Algebra.Order.Ring.Rat
namespace Evo

theorem absR_eq_abs (x : Rat) : absR x = |x| := by
  unfold absR
  split
  · next h => rw [abs_of_neg h]
  · next h => rw [abs_of_nonneg (not_lt.mp h)]

theorem absR_nonneg (x : Rat) : 0 ≤ absR x := by rw [absR_eq_abs]; exact abs_nonneg x

/-- loop invariant of `argminGo`.  The values are given as a function `g` of the position (no indexing into a
growing prefix): the candidate `best < i` is the first minimiser of `g` before `i`, and `l` holds the values from
`i` on. -/
theorem argminGo_spec (f : Rat → Rat) (g : Nat → Rat) (l : List Rat) (i best : Nat)
    (hl : ∀ k (hk : k < l.length), g (i + k) = f l[k])
    (hb : best < i) (hmin : ∀ k < i, g best ≤ g k) (hfirst : ∀ k < best, g best < g k) :
    let j := argminGo f l i best (g best)
    j < i + l.length ∧ (∀ k < i + l.length, g j ≤ g k) ∧ ∀ k < j, g j < g k := by
  induction l generalizing i best with
  | nil => exact ⟨hb, hmin, hfirst⟩
  | cons x r ih =>
    have hx : g i = f x := hl 0 (Nat.zero_lt_succ _)
    have hr : ∀ k (hk : k < r.length), g (i + 1 + k) = f r[k] := fun k hk => by
      rw [Nat.add_right_comm]; exact hl (k + 1) (Nat.succ_lt_succ hk)
    have hlen : i + 1 + r.length = i + (x :: r).length := by simp; omega
    simp only [argminGo, ← hx, ← hlen]
    split
    · next hlt =>
      exact ih (i + 1) i hr (Nat.lt_succ_self i)
        (fun k hk => (Nat.lt_succ_iff_lt_or_eq.mp hk).elim (fun h => (hlt.trans_le (hmin k h)).le)
          (fun h => h ▸ le_rfl))
        (fun k hk => hlt.trans_le (hmin k hk))
    · next hge =>
      exact ih (i + 1) best hr (Nat.lt_succ_of_lt hb)
        (fun k hk => (Nat.lt_succ_iff_lt_or_eq.mp hk).elim (hmin k) (fun h => h ▸ not_lt.mp hge))
        hfirst

/-- `argminFirst` returns the first index at which `f` is minimal (like `numpy.argmin`). -/
theorem argminFirst_spec (f : Rat → Rat) (l : List Rat) (hne : l ≠ []) :
    ∃ hj : argminFirst f l < l.length,
      (∀ k (hk : k < l.length), f (l[argminFirst f l]) ≤ f (l[k])) ∧
      (∀ k (hk : k < argminFirst f l), f (l[argminFirst f l]) < f (l[k]'(by omega))) := by
  cases l with
  | nil => exact absurd rfl hne
  | cons x r =>
    have hg : ∀ k (hk : k < (x :: r).length), f ((x :: r).getD k 0) = f (x :: r)[k] := fun k hk => by
      rw [List.getD_eq_getElem?_getD, List.getElem?_eq_getElem hk, Option.getD_some]
    obtain ⟨hj, hmin, hfirst⟩ : argminFirst f (x :: r) < 1 + r.length ∧ _ ∧ _ :=
      argminGo_spec f (fun k => f ((x :: r).getD k 0)) r 1 0
        (fun k hk => by simp only [Nat.add_comm 1 k, List.getD_eq_getElem?_getD, List.getElem?_cons_succ,
          List.getElem?_eq_getElem hk, Option.getD_some]) Nat.zero_lt_one
        (fun k hk => by rw [Nat.lt_one_iff.mp hk]) (fun k hk => absurd hk (Nat.not_lt_zero k))
    rw [Nat.add_comm] at hj hmin
    refine ⟨hj, fun k hk => ?_, fun k hk => ?_⟩
    · rw [← hg _ hj, ← hg k hk]; exact hmin k hk
    · rw [← hg _ hj, ← hg k (hk.trans hj)]; exact hfirst k hk

theorem argminFirst_drop_spec (f : Rat → Rat) (l : List Rat) (n : Nat) (hn : n < l.length) :
    ∃ hc : argminFirst f (l.drop n) + n < l.length,
      (∀ k (hk : k < l.length), n ≤ k → f l[argminFirst f (l.drop n) + n] ≤ f l[k]) ∧
      (∀ k (hk : k < l.length), n ≤ k → k < argminFirst f (l.drop n) + n →
        f l[argminFirst f (l.drop n) + n] < f l[k]) := by
  obtain ⟨hc, hmin, hfirst⟩ := argminFirst_spec f (l.drop n) (by simp; omega)
  simp only [List.length_drop, List.getElem_drop, Nat.add_comm n] at hc hmin hfirst
  refine ⟨by omega, fun k hk hnk => ?_, fun k hk hnk hkc => ?_⟩
  · have := hmin (k - n) (by omega)
    simpa only [Nat.sub_add_cancel hnk] using this
  · have := hfirst (k - n) (by omega)
    simpa only [Nat.sub_add_cancel hnk] using this

end Evo
