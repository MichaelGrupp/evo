/-
`math.atan2` over ℝ as the argument of a complex number (the one transcendental step that the error cores of
the metrics and the rotation angle of `lie_algebra.py` leave to their reader), with the facts the real-valued
layers use: it inverts `θ ↦ (cos θ, sin θ)` on `(−π, π]`, lies in `[0, π]` on the upper half plane, and on
the upper unit half circle is `arccos` of the first coordinate.
-/
import Mathlib.Analysis.SpecialFunctions.Complex.Arg
namespace Evo
open Real

/-- `math.atan2(y, x)`: the argument of `x + y·i`, in `(−π, π]`, `atan2(0, 0) = 0` -/
noncomputable def atan2 (y x : ℝ) : ℝ := Complex.arg (⟨x, y⟩ : ℂ)

theorem atan2_cos_sin (θ : ℝ) (h : θ ∈ Set.Ioc (-π) π) : atan2 (sin θ) (cos θ) = θ := by
  unfold atan2
  have : (⟨cos θ, sin θ⟩ : ℂ) = Complex.cos θ + Complex.sin θ * Complex.I := by
    apply Complex.ext <;> simp [← Complex.ofReal_cos, ← Complex.ofReal_sin]
  rw [this]; exact Complex.arg_cos_add_sin_mul_I h

theorem atan2_range (y x : ℝ) (hy : 0 ≤ y) : 0 ≤ atan2 y x ∧ atan2 y x ≤ π := by
  unfold atan2
  exact ⟨Complex.arg_nonneg_iff.mpr hy, Complex.arg_le_pi _⟩

theorem atan2_eq_zero_iff (y x : ℝ) : atan2 y x = 0 ↔ 0 ≤ x ∧ y = 0 := by
  unfold atan2; rw [Complex.arg_eq_zero_iff]

theorem cos_sin_circle (θ : ℝ) : cos θ * cos θ + sin θ * sin θ = 1 := by
  rw [← sq, ← sq]; exact Real.cos_sq_add_sin_sq θ

theorem atan2_sqrt_of_circle {c s2 : ℝ} (hs : 0 ≤ s2) (h : c ^ 2 + s2 = 1) :
    atan2 (√s2) c = arccos c ∧ cos (arccos c) = c ∧ sin (arccos c) = √s2 := by
  obtain ⟨h1, h2⟩ := abs_le_of_sq_le_sq' (by linarith : c ^ 2 ≤ 1 ^ 2) zero_le_one
  have hcos := cos_arccos h1 h2
  have hsin : sin (arccos c) = √s2 := by rw [sin_arccos]; congr 1; linarith
  refine ⟨?_, hcos, hsin⟩
  have := atan2_cos_sin (arccos c) ⟨by linarith [arccos_nonneg c, pi_pos], arccos_le_pi _⟩
  rwa [hcos, hsin] at this

end Evo
