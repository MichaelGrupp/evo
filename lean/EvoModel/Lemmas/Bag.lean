/-
ROS bag time stamps: the `sec/nanosec` split of `write_bag_trajectory` and the reassembly of
`read_bag_trajectory` (`Text.bagSplit`, `Text.bagJoin`), error analysis with the verified `rne`.
All float operations are evo's; rosbags only stores and returns the two unsigned integers.
-/
import EvoModel.Model.TextFormats
import EvoModel.Lemmas.F64
import Mathlib.Data.Rat.Floor
namespace Evo.F64
open Evo.Text

theorem floor_eq (x : ℚ) : x.floor = ⌊x⌋ := rfl

/-- `stamp − sec` is exact in binary64: same exponent, smaller mantissa -/
theorem isF64_fract (x : ℚ) (hx : IsF64 x) (h0 : 0 ≤ x) : IsF64 (x - (⌊x⌋ : ℤ)) := by
  obtain ⟨m, e, hm, he1, he2, rfl⟩ := hx
  by_cases he : 0 ≤ e
  · -- an integer: fractional part 0
    obtain ⟨a, ha⟩ := rescale m e 0 he
    rw [ha, zpow_zero, mul_one, Int.floor_intCast, sub_self]
    exact isF64_zero
  · -- `⌊x⌋ = a·2^e` lies on the grid of `x`, and `0 ≤ (m − a)·2^e ≤ m·2^e`
    have hpe := two_zpow_pos e
    obtain ⟨a, ha⟩ := rescale ⌊(m : ℚ) * (2 : ℚ) ^ e⌋ 0 e (by omega)
    rw [zpow_zero, mul_one] at ha
    have h1 : (0 : ℚ) * (2 : ℚ) ^ e ≤ ((m - a : ℤ) : ℚ) * (2 : ℚ) ^ e := by
      rw [zero_mul, Int.cast_sub, sub_mul, ← ha]; exact sub_nonneg.mpr (Int.floor_le _)
    have h2 : ((m - a : ℤ) : ℚ) * (2 : ℚ) ^ e ≤ (m : ℚ) * (2 : ℚ) ^ e := by
      rw [Int.cast_sub, sub_mul, ← ha]
      exact sub_le_self _ (by exact_mod_cast Int.floor_nonneg.mpr h0)
    have h1' : 0 ≤ m - a := by exact_mod_cast le_of_mul_le_mul_right h1 hpe
    have h2' : m - a ≤ m := by exact_mod_cast le_of_mul_le_mul_right h2 hpe
    refine ⟨m - a, e, ?_, he1, he2, by rw [Int.cast_sub, sub_mul, ← ha]⟩
    rw [abs_of_nonneg h1']
    have := le_abs_self m
    omega

/-- the double nearest to 10⁻⁹ (the literal `1e-9` in `t.nanosec * 1e-9`) -/
def c9 : ℚ := 4835703278458517 / 4835703278458516698824704

theorem rne_c9 : rne (mkRat 1 1000000000) = some c9 := by unfold c9; decide +kernel

theorem mul_c9_err (n : ℚ) (h0 : 0 ≤ n) (h9 : n ≤ 10 ^ 9) : |n * c9 - n / 10 ^ 9| ≤ 1 / 2 ^ 53 := by
  have hc : |c9 - 1 / 10 ^ 9| ≤ 1 / 10 ^ 9 / 2 ^ 53 := by
    unfold c9; rw [abs_le]; constructor <;> norm_num
  calc |n * c9 - n / 10 ^ 9| = n * |c9 - 1 / 10 ^ 9| := by
        rw [show n * c9 - n / 10 ^ 9 = n * (c9 - 1 / 10 ^ 9) by ring, abs_mul, abs_of_nonneg h0]
    _ ≤ 10 ^ 9 * (1 / 10 ^ 9 / 2 ^ 53) := mul_le_mul h9 hc (abs_nonneg _) (by norm_num)
    _ = 1 / 2 ^ 53 := by norm_num

/-- `2⁴⁰` is room enough for a nanosecond count and for a stamp below `2³¹`; `1 / 2 ^ 60` is a round
stand-in for the subnormal term `2⁻¹⁰⁷⁵` of `rne_err` -/
theorem rne_small (y : ℚ) (h0 : 0 ≤ y) (hb : y ≤ 2 ^ 40) :
    ∃ r, rne y = some r ∧ 0 ≤ r ∧ |r - y| ≤ y / 2 ^ 53 + 1 / 2 ^ 60 := by
  obtain ⟨r, hr⟩ := Option.isSome_iff_exists.mp
    (rne_isSome_of_abs_le y (by rw [abs_of_nonneg h0]; exact le_trans hb closeBound_ge))
  have h := rne_err y r hr
  have ht : (2 : ℚ) ^ (-1075 : ℤ) ≤ 1 / 2 ^ 60 := by
    rw [one_div, ← zpow_natCast, ← zpow_neg]
    exact zpow_le_zpow_right₀ (by norm_num) (by norm_num)
  rw [abs_of_nonneg h0] at h
  exact ⟨r, hr, rne_nonneg y r h0 hr, le_trans h (by linarith)⟩

theorem roundHalfEven_cases (g : ℚ) : (roundHalfEven g = g.floor ∧ g - g.floor ≤ 1 / 2) ∨
    (roundHalfEven g = g.floor + 1 ∧ 1 / 2 ≤ g - g.floor) := by
  unfold roundHalfEven
  simp only
  split_ifs with c1 c2 c3
  · exact Or.inl ⟨rfl, c1.le⟩
  · exact Or.inr ⟨rfl, c2.le⟩
  · exact Or.inl ⟨rfl, not_lt.mp c2⟩
  · exact Or.inr ⟨rfl, not_lt.mp c1⟩

theorem roundHalfEven_spec (g : ℚ) (hg : 0 ≤ g) :
    |(roundHalfEven g : ℚ) - g| ≤ 1 / 2 ∧ 0 ≤ roundHalfEven g := by
  have h1 : ((g.floor : ℤ) : ℚ) ≤ g := Int.floor_le g
  have h2 : g < (g.floor : ℤ) + 1 := Int.lt_floor_add_one g
  have h0 : 0 ≤ g.floor := Int.floor_nonneg.mpr hg
  rw [abs_le]
  rcases roundHalfEven_cases g with ⟨hr, h⟩ | ⟨hr, h⟩ <;> rw [hr]
  · exact ⟨⟨by linarith, by linarith⟩, h0⟩
  · push_cast
    exact ⟨⟨by linarith, by linarith⟩, by omega⟩

/-- `g` is the rounded product `(stamp - sec) * 1e9`, `ns` its `round` -/
theorem split_err (x s g : ℚ) (ns : ℤ) (hs1 : x < s + 1)
    (hg : |g - (x - s) * 1000000000| ≤ (x - s) * 1000000000 / 2 ^ 53 + 1 / 2 ^ 60)
    (hr : |(ns : ℚ) - g| ≤ 1 / 2) :
    ns ≤ 10 ^ 9 ∧ |s + (ns : ℚ) / 10 ^ 9 - x| ≤ 1 / (2 * 10 ^ 9) + 2 / 2 ^ 53 := by
  rw [abs_le] at hg hr ⊢
  have : (ns : ℚ) < ((10 ^ 9 + 1 : ℤ) : ℚ) := by push_cast; linarith
  have : ns < 10 ^ 9 + 1 := by exact_mod_cast this
  exact ⟨by omega, by linarith, by linarith⟩

/-- `write_bag_trajectory`: the header stamp has `0 ≤ nanosec < 10⁹`, `sec = ⌊x⌋` (or `⌊x⌋ + 1` with
`nanosec = 0`: the carry), and represents `x` to within half a nanosecond (plus 2⁻⁵² s rounding
dust of the product) -/
theorem bagSplit_spec (x : ℚ) (hx : IsF64 x) (h0 : 0 ≤ x) :
    ∃ sec ns : ℤ, bagSplit x = some (sec, ns) ∧ 0 ≤ ns ∧ ns < 10 ^ 9 ∧
      (sec = ⌊x⌋ ∨ (sec = ⌊x⌋ + 1 ∧ ns = 0)) ∧
      |(sec : ℚ) + (ns : ℚ) / 10 ^ 9 - x| ≤ 1 / (2 * 10 ^ 9) + 2 / 2 ^ 53 := by
  have hs0 : ((⌊x⌋ : ℤ) : ℚ) ≤ x := Int.floor_le x
  have hs1 : x < (⌊x⌋ : ℤ) + 1 := Int.lt_floor_add_one x
  obtain ⟨g, hg, hg0, hge⟩ := rne_small ((x - (⌊x⌋ : ℤ)) * 1000000000) (by linarith) (by linarith)
  obtain ⟨hr, hr0⟩ := roundHalfEven_spec g hg0
  have hsplit : bagSplit x = some (if roundHalfEven g = 1000000000 then (⌊x⌋ + 1, 0) else (⌊x⌋, roundHalfEven g)) := by
    simp only [bagSplit, floor_eq, rne_id _ (isF64_fract x hx h0), hg]
  generalize roundHalfEven g = ns at *
  obtain ⟨hnle, hval⟩ := split_err x _ g ns hs1 hge hr
  by_cases hcar : ns = 1000000000
  · refine ⟨⌊x⌋ + 1, 0, by rw [hsplit, if_pos hcar], le_refl _, by norm_num, Or.inr ⟨rfl, rfl⟩, ?_⟩
    rw [hcar] at hval
    convert hval using 2
    push_cast; norm_num
  · exact ⟨⌊x⌋, ns, by rw [hsplit, if_neg hcar], hr0, by omega, Or.inl rfl, hval⟩

/-- `p` is the rounded product `t.nanosec * 1e-9`, `hH` what `bagSplit_spec` gives -/
theorem join_sum_err (x s n p : ℚ) (hn0 : 0 ≤ n) (hn9 : n ≤ 10 ^ 9)
    (hH : |s + n / 10 ^ 9 - x| ≤ 1 / (2 * 10 ^ 9) + 2 / 2 ^ 53)
    (hp : |p - n * c9| ≤ n * c9 / 2 ^ 53 + 1 / 2 ^ 60) :
    |s + p - x| ≤ 1 / (2 * 10 ^ 9) + 5 / 2 ^ 53 := by
  obtain ⟨hc1, hc2⟩ := abs_le.mp (mul_c9_err n hn0 hn9)
  rw [abs_le] at hH hp ⊢
  constructor <;> linarith

/-- `read_bag_trajectory`: reading back a header stamp `(s, n)` whose value `s + n·10⁻⁹` is within
half a nanosecond (plus rounding dust) of the binary64 stamp `0 ≤ x < 2³¹` gives a binary64 value
within one nanosecond of `x` -/
theorem join_error (x : ℚ) (hx : IsF64 x) (h0 : 0 ≤ x) (h31 : x < 2 ^ 31) (s n : ℤ) (hs0 : 0 ≤ s)
    (hn0 : 0 ≤ n) (hn9 : n ≤ 10 ^ 9)
    (hH : |(s : ℚ) + (n : ℚ) / 10 ^ 9 - x| ≤ 1 / (2 * 10 ^ 9) + 2 / 2 ^ 53) :
    ∃ x', bagJoin s n = some x' ∧ IsF64 x' ∧ |x' - x| ≤ 1 / 10 ^ 9 := by
  have hs0q : (0 : ℚ) ≤ s := by exact_mod_cast hs0
  have hn0q : (0 : ℚ) ≤ n := by exact_mod_cast hn0
  have hn9q : (n : ℚ) ≤ 10 ^ 9 := by exact_mod_cast hn9
  have hc0 : 0 ≤ (n : ℚ) * c9 := mul_nonneg hn0q (by unfold c9; norm_num)
  obtain ⟨p, hp, hp0, hpe⟩ := rne_small ((n : ℚ) * c9) hc0
    (by linarith only [hn9q, (abs_le.mp (mul_c9_err n hn0q hn9q)).2])
  have hD := join_sum_err x s n p hn0q hn9q hH hpe
  have hD2 := (abs_le.mp hD).2
  obtain ⟨x', hx', -, hxe⟩ := rne_small ((s : ℚ) + p) (add_nonneg hs0q hp0) (by linarith only [hD2, h31])
  have hnear := rne_nearest _ _ hx'
  refine ⟨x', by simp only [bagJoin, rne_c9, hp, hx'], hnear.1, ?_⟩
  -- `4400000`: a round number below `2⁵³ / (2·10⁹) ≈ 4.5·10⁶` (up to there the last rounding, about
  -- `x·2⁻⁵³`, fits into the half nanosecond left) and above `2²¹` (from there on the grid is `2⁻³¹`)
  by_cases hsmall : x ≤ 4400000
  · -- the last rounding is relative: at most `(x + 1)·2⁻⁵³` more
    have := abs_sub_le x' ((s : ℚ) + p) x
    linarith only [this, hxe, hD, hD2, hsmall]
  · -- `x'` is at most twice as far; both are multiples of `2⁻³¹`, less than three steps apart
    have h2D := hnear.dist_le hx
    have h21 : (2 : ℚ) ^ ((-31 : ℤ) + 52) = 2 ^ 21 := by norm_num
    have hx' : (2 : ℚ) ^ 21 ≤ x' := by linarith only [(abs_le.mp h2D).1, hD, hsmall]
    obtain ⟨a, rfl⟩ := on_grid_of_le hx (-31) (by rw [h21, abs_of_nonneg h0]; linarith only [hsmall])
    obtain ⟨a', rfl⟩ := on_grid_of_le hnear.1 (-31) (by rw [h21]; exact le_trans hx' (le_abs_self x'))
    rw [show (2 : ℚ) ^ (-31 : ℤ) = 1 / 2 ^ 31 by norm_num [zpow_neg]] at h2D hD ⊢
    have := grid_dist_lt a' a 2 (by norm_num : (0 : ℚ) < 1 / 2 ^ 31) (by push_cast; linarith only [h2D, hD])
    linarith only [this]

end Evo.F64
