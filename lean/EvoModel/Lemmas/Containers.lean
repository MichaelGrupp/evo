/-
Round trips of the two container layers of Model/Containers.lean.  DataFrame: the columns are found
again by name (`df_roundtrip_std`).  Result archive: `loadRes` reads back what `saveRes` wrote
(`res_roundtrip`), because a member name passes the suffix test of its own group and of no other, the
names are pairwise different, so that `ZipFile.read` finds each member itself, and `stem` takes the
suffix off again.
-/
import EvoModel.Model.Containers
import Mathlib.Data.List.Basic
import Mathlib.Data.List.Nodup
import Mathlib.Data.List.TakeWhile
namespace Evo.Cont
open Evo.Text

theorem zip7_slots (ps : List Pose7) :
    zip7 (ps.map (slot "positions_xyz" 0)) (ps.map (slot "positions_xyz" 1)) (ps.map (slot "positions_xyz" 2))
      (ps.map (slot "orientations_quat_wxyz" 0)) (ps.map (slot "orientations_quat_wxyz" 1))
      (ps.map (slot "orientations_quat_wxyz" 2)) (ps.map (slot "orientations_quat_wxyz" 3)) = ps := by
  induction ps with
  | nil => rfl
  | cons p ps ih => simp only [List.map_cons, zip7, ih]; simp [slot]

/-- the column table of `trajectory_to_df` in evo's `pandas_bridge.py`, written out by hand;
`C06.df_roundtrip` checks by `decide` that the regenerated `Gen.dfWriterSlots` is this table and that
`Gen.dfReaderQuat`, `Gen.dfReaderPos` are the two name lists of `df_roundtrip_std` -/
def stdSlots : List (String × String × Nat) :=
  [("x", "positions_xyz", 0), ("y", "positions_xyz", 1), ("z", "positions_xyz", 2),
   ("qw", "orientations_quat_wxyz", 0), ("qx", "orientations_quat_wxyz", 1),
   ("qy", "orientations_quat_wxyz", 2), ("qz", "orientations_quat_wxyz", 3)]

theorem df_roundtrip_std (t : Traj) :
    dfToTrajWith ["qw", "qx", "qy", "qz"] ["x", "y", "z"] (trajToDfWith stdSlots t) = some t := by
  cases t <;> simp [dfToTrajWith, trajToDfWith, stdSlots, mapOpt, col, List.find?, zip7_slots]

/-- `load_res_file` gets a name back as `Path(member).stem`, the last path component without its suffix:
a name with `/` would come back cut, the empty name as the suffix itself (`Path(".npy").stem == ".npy"`) -/
def ValidName (n : Str) : Prop := n ≠ [] ∧ '/' ∉ n

theorem endsWith_append (n suf : Str) : endsWith (n ++ suf) suf = true := by
  unfold endsWith
  rw [List.reverse_append]
  exact List.isPrefixOf_iff_prefix.mpr (List.prefix_append _ _)

/-! which group test of `loadRes` a member name written by `saveRes` passes: its own and no other -/

theorem isNpyName_npy (n : Str) : isNpyName (n ++ suffNpy) = true := by
  simp [isNpyName, endsWith_append]

theorem isNpyName_kind (n : Str) (k : Kind) : isNpyName (n ++ suffixOf k) = false := by
  cases k <;> simp [isNpyName, endsWith, suffixOf, suffNpy, suffNpz, suffTum, suffKitti, List.isPrefixOf]

theorem isKindName_npy (k : Kind) (n : Str) : isKindName k (n ++ suffNpy) = false := by
  cases k <;> simp [isKindName, endsWith, suffixOf, suffNpy, suffTum, suffKitti, List.isPrefixOf]

theorem isKindName_kind (k' : Kind) (n : Str) (k : Kind) :
    isKindName k' (n ++ suffixOf k) = decide (k = k') := by
  cases k <;> cases k' <;> simp [isKindName, endsWith, suffixOf, suffTum, suffKitti, List.isPrefixOf]

theorem tests_fixed : ∀ n ∈ [nameInfo, nameStats],
    isNpyName n = false ∧ ∀ k, isKindName k n = false := by
  have h : ∀ n ∈ [nameInfo, nameStats],
      isNpyName n = false ∧ isKindName .tum n = false ∧ isKindName .kitti n = false := by decide
  exact fun n hn => ⟨(h n hn).1, fun k => by cases k; exacts [(h n hn).2.1, (h n hn).2.2]⟩

theorem ne_of_test {p : Str → Bool} {a b : Str} (ha : p a = true) (hb : p b = false) : a ≠ b := by
  rintro rfl
  rw [ha] at hb
  cases hb

/-- the suffix is given reversed, as `rest ++ ['.']`: `stem` scans the name from its end -/
theorem stem_append (n suf : Str) (hn : ValidName n) (rest : Str)
    (hsuf : suf.reverse = rest ++ ['.']) (hrest : rest ≠ []) (hr1 : '.' ∉ rest) (hr2 : '/' ∉ rest) :
    stem (n ++ suf) = n := by
  obtain ⟨hne, hsl⟩ := hn
  unfold stem
  have hrev : (n ++ suf).reverse = rest ++ '.' :: n.reverse := by
    rw [List.reverse_append, hsuf]; simp
  have hsl' : '/' ∉ rest ++ '.' :: n.reverse := by simp [hr2, hsl]
  have hall : ∀ c ∈ rest ++ '.' :: n.reverse, (c != '/') = true :=
    fun c hc => bne_iff_ne.mpr fun h => hsl' (h ▸ hc)
  have hrestp : ∀ c ∈ rest, (c != '.') = true := fun c hc => bne_iff_ne.mpr fun h => hr1 (h ▸ hc)
  have h1 : (rest ++ '.' :: n.reverse).takeWhile (fun c => c != '.') = rest := by
    rw [List.takeWhile_append_of_pos hrestp]; simp
  have h2 : (rest ++ '.' :: n.reverse).dropWhile (fun c => c != '.') = '.' :: n.reverse := by
    rw [List.dropWhile_append_of_pos hrestp]; simp
  simp only [hrev, List.takeWhile_eq_self_iff.mpr hall, h1, h2]
  simp [hne, hrest]

theorem stem_npy (n : Str) (hn : ValidName n) : stem (n ++ suffNpy) = n :=
  stem_append n suffNpy hn ['y', 'p', 'n'] (by decide) (by decide) (by decide) (by decide)
theorem stem_kind (n : Str) (k : Kind) (hn : ValidName n) : stem (n ++ suffixOf k) = n := by
  cases k
  · exact stem_append n suffTum hn ['m', 'u', 't'] (by decide) (by decide) (by decide) (by decide)
  · exact stem_append n suffKitti hn ['i', 't', 't', 'i', 'k'] (by decide) (by decide) (by decide) (by decide)

theorem readMember_none {C : Type} : ∀ (z : List (Str × C)) (n : Str), n ∉ z.map (·.1) → readMember z n = none
  | [], _, _ => rfl
  | (k, v) :: r, n, h => by
      simp only [List.map_cons, List.mem_cons, not_or] at h
      simp only [readMember, readMember_none r n h.2]
      simp [Ne.symm h.1]

theorem readMember_of_mem {C : Type} : ∀ (z : List (Str × C)) (k : Str) (v : C),
    (z.map (·.1)).Nodup → (k, v) ∈ z → readMember z k = some v
  | (k0, v0) :: r, k, v, hnd, hm => by
      simp only [List.map_cons, List.nodup_cons] at hnd
      rcases List.mem_cons.mp hm with h | h
      · cases h
        simp only [readMember, readMember_none r _ hnd.1]
        simp
      · simp only [readMember, readMember_of_mem r k v hnd.2 h]

theorem dictSet_new {V : Type} (d : List (Str × V)) (k : Str) (v : V) (h : k ∉ d.map (·.1)) :
    dictSet d k v = d ++ [(k, v)] := by
  unfold dictSet
  have : d.any (fun e => e.1 == k) = false := by
    rw [List.any_eq_false]
    intro e he hek
    exact h (List.mem_map.mpr ⟨e, he, by simpa using hek⟩)
  simp [this]

/-- the `Nodup` hypothesis: with pairwise different stems `dictSet` never overwrites an entry -/
theorem loadGroup_spec {C V : Type} (z : List (Str × C)) (isMine : Str → Bool) (dec : Str → C → Option V) :
    ∀ (fns : List Str) (acc out : List (Str × V)),
      List.Forall₂ (fun fn kv => kv.1 = stem fn ∧ ∃ c, readMember z fn = some c ∧ dec fn c = some kv.2)
        (fns.filter isMine) out →
      ((acc ++ out).map (·.1)).Nodup →
      loadGroup z isMine dec fns acc = some (acc ++ out)
  | [], acc, out, h, _ => by
      cases h; simp [loadGroup]
  | fn :: rest, acc, out, h, hnd => by
      by_cases hm : isMine fn = true
      · rw [List.filter_cons_of_pos hm] at h
        cases h with
        | cons hh ht =>
          rename_i kv out'
          obtain ⟨hk, c, hc, hd⟩ := hh
          have hnew : stem fn ∉ acc.map (·.1) := by
            intro hmem
            rw [List.map_append, List.nodup_append] at hnd
            exact hnd.2.2 _ hmem _ (by simp [hk]) rfl
          simp only [loadGroup, hm, if_true, hc, hd]
          rw [dictSet_new acc (stem fn) kv.2 hnew]
          have e : acc ++ [(stem fn, kv.2)] ++ out' = acc ++ kv :: out' := by
            rw [← hk]; simp
          rw [← e] at hnd ⊢
          exact loadGroup_spec z isMine dec rest _ out' ht hnd
      · have hm' : isMine fn = false := by simpa using hm
        rw [List.filter_cons_of_neg (by simp [hm'])] at h
        simp only [loadGroup, hm', Bool.false_eq_true, if_false]
        exact loadGroup_spec z isMine dec rest acc out h hnd

theorem loadGroup_names {C V : Type} (z : List (Str × C)) (hz : (z.map (·.1)).Nodup)
    (isMine : Str → Bool) (dec : Str → C → Option V) (acc out : List (Str × V))
    (h : List.Forall₂ (fun m kv => kv.1 = stem m.1 ∧ dec m.1 m.2 = some kv.2)
      (z.filter fun m => isMine m.1) out)
    (hnd : ((acc ++ out).map (·.1)).Nodup) :
    loadGroup z isMine dec (z.map (·.1)) acc = some (acc ++ out) := by
  apply loadGroup_spec z isMine dec _ acc out _ hnd
  rw [List.filter_map, List.forall₂_map_left_iff]
  refine ((List.forall₂_and_left _ _).mpr ⟨fun m hm => List.mem_of_mem_filter hm, h⟩).imp ?_
  rintro m kv ⟨hm, hk, hd⟩
  exact ⟨hk, m.2, readMember_of_mem z m.1 m.2 hz hm, hd⟩

/-- `load_res_file` returns the TUM trajectories first, then the KITTI ones: a rearrangement of the
saved ones -/
theorem trajs_by_kind_perm {T : Type} (l : List (Str × Kind × T)) :
    ((l.filter fun e => e.2.1 = .tum) ++ (l.filter fun e => e.2.1 = .kitti)).Perm l := by
  have : (l.filter fun e => e.2.1 = Kind.kitti) = l.filter fun e => !decide (e.2.1 = Kind.tum) :=
    List.filter_congr fun e _ => by generalize e.2.1 = k; cases k <;> rfl
  rw [this]
  exact List.filter_append_perm _ l

section
variable {I S A T : Type} (ser : Kind → T → Str) (r : Res I S A T)

theorem saveRes_names : (saveRes ser r).map (·.1) = [nameInfo, nameStats] ++
    (r.arrays.map (fun e => e.1 ++ suffNpy) ++ r.trajs.map fun e => e.1 ++ suffixOf e.2.1) := by
  simp [saveRes, Function.comp_def]

theorem saveRes_names_nodup (hAn : (r.arrays.map (·.1)).Nodup) (hTn : (r.trajs.map (·.1)).Nodup) :
    ((saveRes ser r).map (·.1)).Nodup := by
  have hndA : (r.arrays.map fun e => e.1 ++ suffNpy).Nodup :=
    (List.Nodup.of_map _ hAn).map_on fun e he e' he' h =>
      List.inj_on_of_nodup_map hAn he he' (List.append_cancel_right h)
  have hndT : (r.trajs.map fun e => e.1 ++ suffixOf e.2.1).Nodup :=
    (List.Nodup.of_map _ hTn).map_on fun e he e' he' h => by
      -- equal names pass the same suffix test, so the kinds agree
      have hk := isKindName_kind e'.2.1 e.1 e.2.1
      rw [h, isKindName_kind, decide_eq_true rfl, eq_comm, decide_eq_true_eq] at hk
      rw [hk] at h
      exact List.inj_on_of_nodup_map hTn he he' (List.append_cancel_right h)
  rw [saveRes_names]
  refine List.nodup_append.mpr ⟨by decide, List.nodup_append.mpr ⟨hndA, hndT, ?_⟩, ?_⟩
  · rintro _ ha _ hb
    obtain ⟨e, -, rfl⟩ := List.mem_map.mp ha
    obtain ⟨e', -, rfl⟩ := List.mem_map.mp hb
    exact ne_of_test (isNpyName_npy _) (isNpyName_kind _ _)
  · intro a ha b hb
    obtain ⟨f1, f2⟩ := tests_fixed a ha
    rcases List.mem_append.mp hb with hb | hb
    · obtain ⟨e, -, rfl⟩ := List.mem_map.mp hb
      exact (ne_of_test (isNpyName_npy _) f1).symm
    · obtain ⟨e, -, rfl⟩ := List.mem_map.mp hb
      exact (ne_of_test (by rw [isKindName_kind]; exact decide_eq_true rfl) (f2 e.2.1)).symm

theorem saveRes_filter_npy : (saveRes ser r).filter (fun m => isNpyName m.1) =
    r.arrays.map fun e => (e.1 ++ suffNpy, Content.npy e.2) := by
  have hi := (tests_fixed nameInfo (by simp)).1
  have hs := (tests_fixed nameStats (by simp)).1
  simp [saveRes, List.filter_map, Function.comp_def, hi, hs, isNpyName_npy, isNpyName_kind]

theorem saveRes_filter_kind (k : Kind) : (saveRes ser r).filter (fun m => isKindName k m.1) =
    (r.trajs.filter fun e => e.2.1 = k).map fun e =>
      (e.1 ++ suffixOf e.2.1, Content.text (ser e.2.1 e.2.2)) := by
  have hi := (tests_fixed nameInfo (by simp)).2 k
  have hs := (tests_fixed nameStats (by simp)).2 k
  simp [saveRes, List.filter_map, Function.comp_def, hi, hs, isKindName_npy, isKindName_kind]

theorem res_roundtrip (de : Kind → Str → Option T)
    (hde : ∀ k t, de k (ser k t) = some t)
    (hA : ∀ e ∈ r.arrays, ValidName e.1) (hAn : (r.arrays.map (·.1)).Nodup)
    (hT : ∀ e ∈ r.trajs, ValidName e.1) (hTn : (r.trajs.map (·.1)).Nodup) :
    loadRes de true (saveRes ser r) = some ⟨r.info, r.stats, r.arrays,
      (r.trajs.filter fun e => e.2.1 = .tum) ++ (r.trajs.filter fun e => e.2.1 = .kitti)⟩ ∧
    loadRes de false (saveRes ser r) = some ⟨r.info, r.stats, r.arrays, []⟩ := by
  have hz := saveRes_names_nodup ser r hAn hTn
  have hcont : (((saveRes ser r).map (·.1)).contains nameInfo &&
      ((saveRes ser r).map (·.1)).contains nameStats) = true := by
    rw [saveRes_names]; simp
  have hri : readMember (saveRes ser r) nameInfo = some (.info r.info) :=
    readMember_of_mem _ _ _ hz (List.mem_cons_self ..)
  have hrs : readMember (saveRes ser r) nameStats = some (.stats r.stats) :=
    readMember_of_mem _ _ _ hz (List.mem_cons_of_mem _ (List.mem_cons_self ..))
  have hgA : loadGroup (saveRes ser r) isNpyName decNpy ((saveRes ser r).map (·.1)) [] = some r.arrays := by
    refine loadGroup_names _ hz _ _ [] r.arrays ?_ (by simpa using hAn)
    rw [saveRes_filter_npy, List.forall₂_map_left_iff, List.forall₂_same]
    exact fun e he => ⟨(stem_npy e.1 (hA e he)).symm, rfl⟩
  -- the trajectories of one kind are appended to those loaded before
  have hgT : ∀ (k : Kind) (acc : List (Str × Kind × T)),
      ((acc ++ r.trajs.filter fun e => e.2.1 = k).map (·.1)).Nodup →
      loadGroup (saveRes ser r) (isKindName k) (decText de k) ((saveRes ser r).map (·.1)) acc
        = some (acc ++ r.trajs.filter fun e => e.2.1 = k) := by
    intro k acc hnd
    refine loadGroup_names _ hz _ _ acc _ ?_ hnd
    rw [saveRes_filter_kind, List.forall₂_map_left_iff, List.forall₂_same]
    intro e he
    obtain ⟨he1, he2⟩ := List.mem_filter.mp he
    rw [← of_decide_eq_true he2]
    exact ⟨(stem_kind e.1 e.2.1 (hT e he1)).symm, by simp [decText, hde]⟩
  have hg1 := hgT .tum [] (hTn.sublist (List.filter_sublist.map _))
  have hg2 := hgT .kitti _ (((trajs_by_kind_perm r.trajs).map (·.1)).nodup_iff.mpr hTn)
  constructor
  · unfold loadRes
    simp only [hcont, Bool.not_true, Bool.false_eq_true, if_false, hri, hrs, hgA, hg1, List.nil_append, hg2]
  · unfold loadRes
    simp only [hcont, Bool.not_true, Bool.false_eq_true, if_false, hri, hrs, hgA, Bool.not_false, if_true]

end
end Evo.Cont
