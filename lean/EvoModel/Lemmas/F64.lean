/-
binary64 as a set of rationals, and the decimal round-trip core of C06/C07:
a rational within relative distance 2⁻⁵⁵ of a binary64 value `x` has `x` as its *only* nearest
binary64 value (`f64_unique_near`), and a decimal correctly rounded to ≥ 18 significant digits is
that close (`digits_suffice`); the executable `rne` of Model/F64.lean returns a nearest binary64
value (`rne_nearest`), does not overflow near binary64 values and has relative error 2⁻⁵³
(`rne_err_cases`).  `rne` is `rnePos` on the magnitude: facts go from `rnePos` to `rne` by `rne_elim`.
-/
import EvoModel.Model.F64
import EvoModel.Model.Basic
import EvoModel.Lemmas.Argmin
import Mathlib.Algebra.Order.Field.Rat
import Mathlib.Algebra.Order.Field.Power
import Mathlib.Tactic.Linarith
import Mathlib.Tactic.Positivity
import Mathlib.Tactic.Ring
import Mathlib.Tactic.NormNum
import Mathlib.Tactic.Push
namespace Evo.F64

/-- the finite binary64 values as rationals, subnormals included; the sign of zero is lost -/
def IsF64 (x : ℚ) : Prop :=
  ∃ m e : ℤ, |m| < 2 ^ 53 ∧ -1074 ≤ e ∧ e ≤ 971 ∧ x = m * (2 : ℚ) ^ e

/-- `r` is a binary64 value nearest to `y` (what any IEEE round-to-nearest conversion returns) -/
def IsNearestF64 (y r : ℚ) : Prop := IsF64 r ∧ ∀ z, IsF64 z → |y - r| ≤ |y - z|

def Close (x y : ℚ) : Prop := |y - x| ≤ |x| / 2 ^ 55

theorem isF64_zero : IsF64 0 := ⟨0, 0, by norm_num, by norm_num, by norm_num, by norm_num⟩

theorem isF64_neg {x : ℚ} (h : IsF64 x) : IsF64 (-x) := by
  obtain ⟨m, e, hm, h1, h2, rfl⟩ := h
  exact ⟨-m, e, by rwa [abs_neg], h1, h2, by push_cast; ring⟩

theorem isF64_one : IsF64 1 := ⟨1, 0, by norm_num, by norm_num, by norm_num, by norm_num⟩

theorem isF64_nat (m : ℕ) (h : m < 2 ^ 53) : IsF64 (m : ℚ) := by
  refine ⟨(m : ℤ), 0, ?_, by norm_num, by norm_num, by simp⟩
  rw [abs_of_nonneg (by positivity)]
  exact_mod_cast h

theorem two_zpow_pos (e : ℤ) : (0 : ℚ) < (2 : ℚ) ^ e := by positivity

theorem two_ne : (2 : ℚ) ≠ 0 := by norm_num

theorem rescale (m e E : ℤ) (h : E ≤ e) :
    ∃ a : ℤ, (m : ℚ) * (2 : ℚ) ^ e = a * (2 : ℚ) ^ E := by
  obtain ⟨d, hd⟩ := Int.eq_ofNat_of_zero_le (sub_nonneg.mpr h)
  refine ⟨m * 2 ^ d, ?_⟩
  have he : e = E + d := by omega
  rw [he, zpow_add₀ two_ne]
  push_cast
  rw [zpow_natCast]
  ring

theorem abs_mul_two_zpow (a : ℚ) (e : ℤ) : |a * (2 : ℚ) ^ e| = |a| * (2 : ℚ) ^ e := by
  rw [abs_mul, abs_of_pos (two_zpow_pos e)]

theorem abs_le_of_mant {m : ℤ} (hm : |m| < 2 ^ 53) (e : ℤ) :
    |(m : ℚ) * (2 : ℚ) ^ e| ≤ (2 ^ 53 - 1) * (2 : ℚ) ^ e := by
  rw [abs_mul_two_zpow]
  have : |m| ≤ 2 ^ 53 - 1 := by omega
  exact mul_le_mul_of_nonneg_right (by exact_mod_cast this) (two_zpow_pos e).le

theorem abs_le_of_exp_lt {m : ℤ} (hm : |m| < 2 ^ 53) {e' e : ℤ} (h : e' < e) :
    |(m : ℚ) * (2 : ℚ) ^ e'| ≤ 2 ^ 52 * (2 : ℚ) ^ e - (2 : ℚ) ^ e / 2 := by
  have h1 := abs_le_of_mant hm e'
  have h2 : (2 : ℚ) ^ e' ≤ (2 : ℚ) ^ (e - 1) := zpow_le_zpow_right₀ (by norm_num) (by omega)
  rw [zpow_sub_one₀ two_ne] at h2
  linarith

theorem grid_dist (a b : ℤ) {g : ℚ} (hg : 0 < g) : |(a : ℚ) * g - b * g| = ((|a - b| : ℤ) : ℚ) * g := by
  rw [← sub_mul, abs_mul, abs_of_pos hg, Int.cast_abs, Int.cast_sub]

theorem int_gap (a b E : ℤ) (h : (a : ℚ) * (2 : ℚ) ^ E ≠ b * (2 : ℚ) ^ E) :
    (2 : ℚ) ^ E ≤ |(a : ℚ) * (2 : ℚ) ^ E - b * (2 : ℚ) ^ E| := by
  have hab : (1 : ℤ) ≤ |a - b| := Int.one_le_abs (sub_ne_zero.mpr fun e => h (by rw [e]))
  rw [grid_dist a b (two_zpow_pos E)]
  exact le_mul_of_one_le_left (two_zpow_pos E).le (by exact_mod_cast hab)

theorem grid_dist_lt (a b k : ℤ) {g : ℚ} (hg : 0 < g)
    (h : |(a : ℚ) * g - b * g| < ((k + 1 : ℤ) : ℚ) * g) : |(a : ℚ) * g - b * g| ≤ (k : ℚ) * g := by
  rw [grid_dist a b hg] at h ⊢
  have : |a - b| < k + 1 := by exact_mod_cast lt_of_mul_lt_mul_right h hg.le
  exact mul_le_mul_of_nonneg_right (by exact_mod_cast Int.lt_add_one_iff.mp this) hg.le

theorem gap_of_le (m m' e e' : ℤ) (h : e ≤ e')
    (hne : (m : ℚ) * (2 : ℚ) ^ e ≠ m' * (2 : ℚ) ^ e') :
    (2 : ℚ) ^ e ≤ |(m : ℚ) * (2 : ℚ) ^ e - m' * (2 : ℚ) ^ e'| := by
  obtain ⟨a, ha⟩ := rescale m' e' e h
  rw [ha] at hne ⊢
  exact int_gap m a e hne

theorem on_grid_of_le {z : ℚ} (hz : IsF64 z) (E : ℤ) (h : (2 : ℚ) ^ (E + 52) ≤ |z|) :
    ∃ a : ℤ, z = a * (2 : ℚ) ^ E := by
  obtain ⟨m, e, hm, -, -, rfl⟩ := hz
  by_cases he : E ≤ e
  · exact rescale m e E he
  · exfalso
    have h1 := abs_le_of_exp_lt hm (not_le.mp he)
    rw [zpow_add₀ two_ne, zpow_ofNat] at h
    linarith [two_zpow_pos E]

/-- two different binary64 values are at least `2⁻⁵³` of either apart (with equality just below a
power of two, where the values are half a step apart) -/
theorem f64_sep {x x' : ℚ} (hx : IsF64 x) (hx' : IsF64 x') (hne : x ≠ x') :
    |x| / 2 ^ 53 ≤ |x - x'| := by
  obtain ⟨m, e, hm, -, -, rfl⟩ := hx
  obtain ⟨m', e', hm', -, -, rfl⟩ := hx'
  have hb := abs_le_of_mant hm e
  have hb' := abs_le_of_mant hm' e'
  -- the finer of the two grids holds both values, and its step is more than `2⁻⁵³` of the value it
  -- comes from
  rcases le_total e e' with hle | hle
  · have := gap_of_le m m' e e' hle hne
    linarith [two_zpow_pos e]
  · have := gap_of_le m' m e' e hle hne.symm
    rw [abs_sub_comm] at this
    linarith [two_zpow_pos e', abs_sub_abs_le_abs_sub ((m : ℚ) * (2 : ℚ) ^ e) (m' * (2 : ℚ) ^ e')]

theorem f64_unique_near (x x' y : ℚ) (hx : IsF64 x) (hx' : IsF64 x')
    (hclose : |y - x| ≤ |x| / 2 ^ 55) (hnear : |y - x'| ≤ |y - x|) : x' = x := by
  by_contra hne
  have hsep := f64_sep hx hx' (Ne.symm hne)
  have hpos := abs_pos.mpr (sub_ne_zero.mpr (Ne.symm hne))
  have := abs_sub_le x y x'
  rw [abs_sub_comm x y] at this
  linarith

/-- the text → double direction of the round trip, for any round-to-nearest conversion -/
theorem nearest_of_close {x y r : ℚ} (hx : IsF64 x) (hc : Close x y) (hr : IsNearestF64 y r) :
    r = x :=
  f64_unique_near x r y hx hr.1 hc (hr.2 x hx)

theorem IsNearestF64.dist_le {y r x : ℚ} (h : IsNearestF64 y r) (hx : IsF64 x) :
    |r - x| ≤ 2 * |y - x| := by
  have h1 := abs_sub_le r y x
  have h2 := h.2 x hx
  rw [abs_sub_comm] at h2
  linarith

theorem isNearest_neg {y r : ℚ} (h : IsNearestF64 y r) : IsNearestF64 (-y) (-r) := by
  refine ⟨isF64_neg h.1, fun z hz => ?_⟩
  have := h.2 (-z) (isF64_neg hz)
  rwa [← abs_neg (-y - -r), ← abs_neg (-y - z), neg_sub', neg_sub', neg_neg, neg_neg]

/-- A decimal `y` correctly rounded to `d ≥ 18` significant digits (`|y − x| ≤ ½·10^(k+1−d)` where
`10^k ≤ |x|`) is within relative distance 2⁻⁵⁵ of `x`.  (`%.18e` prints `d = 19` digits.) -/
theorem digits_suffice (x y : ℚ) (k : ℤ) (d : ℕ) (hd : 18 ≤ d) (hk : (10 : ℚ) ^ k ≤ |x|)
    (hy : |y - x| ≤ (10 : ℚ) ^ (k + 1 - d) / 2) : Close x y := by
  have h1 : (10 : ℚ) ^ (k + 1 - d) ≤ (10 : ℚ) ^ k * (10 : ℚ) ^ (-17 : ℤ) := by
    rw [← zpow_add₀ (by norm_num)]
    exact zpow_le_zpow_right₀ (by norm_num) (by omega)
  have h2 : (10 : ℚ) ^ k * (10 : ℚ) ^ (-17 : ℤ) ≤ |x| * (10 : ℚ) ^ (-17 : ℤ) :=
    mul_le_mul_of_nonneg_right hk (by positivity)
  have h3 : (10 : ℚ) ^ (-17 : ℤ) / 2 ≤ 1 / 2 ^ 55 := by norm_num
  calc |y - x| ≤ (10 : ℚ) ^ (k + 1 - d) / 2 := hy
    _ ≤ |x| * (10 : ℚ) ^ (-17 : ℤ) / 2 := div_le_div_of_nonneg_right (h1.trans h2) (by norm_num)
    _ = |x| * ((10 : ℚ) ^ (-17 : ℤ) / 2) := by ring
    _ ≤ |x| * (1 / 2 ^ 55) := mul_le_mul_of_nonneg_left h3 (abs_nonneg x)
    _ = |x| / 2 ^ 55 := by ring

theorem absR_eq_abs (x : ℚ) : Evo.absR x = |x| := _root_.Evo.absR_eq_abs x

/-! ### the executable `rne` is a round-to-nearest (and does not overflow near binary64 values) -/

theorem pow2_eq (k : ℕ) : pow2 k = 2 ^ k := by unfold pow2; exact Nat.one_shiftLeft k

theorem rhe_cases (n d : ℕ) : (rhe n d = n / d ∧ 2 * (n % d) ≤ d) ∨ (rhe n d = n / d + 1 ∧ d ≤ 2 * (n % d)) := by
  unfold rhe
  simp only
  split_ifs <;> omega

theorem rhe_near (n d : ℕ) (hd : 0 < d) : |(n : ℚ) / d - (rhe n d : ℚ)| ≤ 1 / 2 := by
  have hdq : (0 : ℚ) < d := by exact_mod_cast hd
  have hn : (n : ℚ) = d * (n / d : ℕ) + (n % d : ℕ) := by exact_mod_cast (Nat.div_add_mod n d).symm
  rw [abs_le, le_sub_iff_add_le, sub_le_iff_le_add, le_div_iff₀ hdq, div_le_iff₀ hdq]
  rcases rhe_cases n d with ⟨hk, h⟩ | ⟨hk, h⟩ <;> rw [hk]
  · have h' : (2 : ℚ) * (n % d : ℕ) ≤ d := by exact_mod_cast h
    constructor <;> linarith
  · have h' : (d : ℚ) ≤ 2 * (n % d : ℕ) := by exact_mod_cast h
    have hr : ((n % d : ℕ) : ℚ) < d := by exact_mod_cast Nat.mod_lt n hd
    push_cast
    constructor <;> linarith

theorem log2_bounds (p : ℕ) (hp : 0 < p) :
    (2 : ℚ) ^ ((Nat.log2 p : ℕ) : ℤ) ≤ p ∧ (p : ℚ) < (2 : ℚ) ^ (((Nat.log2 p : ℕ) : ℤ) + 1) := by
  have h1 : 2 ^ Nat.log2 p ≤ p := Nat.log2_self_le (Nat.pos_iff_ne_zero.mp hp)
  have h2 : p < 2 ^ (Nat.log2 p + 1) := Nat.lt_log2_self
  constructor
  · rw [zpow_natCast]; exact_mod_cast h1
  · have : ((Nat.log2 p : ℕ) : ℤ) + 1 = ((Nat.log2 p + 1 : ℕ) : ℤ) := by push_cast; ring
    rw [this, zpow_natCast]; exact_mod_cast h2

/-- the left side is the test `ok` of `ilog2`, verbatim -/
theorem ilog2_test (p q : ℕ) (hq : 0 < q) (a : ℤ) :
    (if a ≥ 0 then decide (q * pow2 a.toNat ≤ p) else decide (q ≤ p * pow2 (-a).toNat)) = true ↔
      (2 : ℚ) ^ a ≤ (p : ℚ) / q := by
  have hqq : (0 : ℚ) < q := by exact_mod_cast hq
  rw [le_div_iff₀ hqq]
  split
  · rename_i ha
    obtain ⟨k, rfl⟩ := Int.eq_ofNat_of_zero_le ha
    rw [Int.toNat_natCast, pow2_eq, decide_eq_true_iff, zpow_natCast, ← Nat.cast_le (α := ℚ),
      Nat.cast_mul, Nat.cast_pow, Nat.cast_ofNat, mul_comm]
  · rename_i ha
    obtain ⟨k, hk⟩ := Int.eq_ofNat_of_zero_le (show 0 ≤ -a by omega)
    rw [hk, Int.toNat_natCast, pow2_eq, decide_eq_true_iff, show a = -(k : ℤ) by omega, zpow_neg,
      zpow_natCast, inv_mul_le_iff₀ (by positivity), ← Nat.cast_le (α := ℚ), Nat.cast_mul,
      Nat.cast_pow, Nat.cast_ofNat, mul_comm]

theorem ilog2_spec (p q : ℕ) (hp : 0 < p) (hq : 0 < q) :
    (2 : ℚ) ^ (ilog2 p q) ≤ (p : ℚ) / q ∧ (p : ℚ) / q < (2 : ℚ) ^ (ilog2 p q + 1) := by
  obtain ⟨hp1, hp2⟩ := log2_bounds p hp
  obtain ⟨hq1, hq2⟩ := log2_bounds q hq
  have hpq : (0 : ℚ) < p := by exact_mod_cast hp
  have hqq : (0 : ℚ) < q := by exact_mod_cast hq
  unfold ilog2
  simp only [ilog2_test p q hq]
  generalize ((Nat.log2 p : ℕ) : ℤ) = lp at *
  generalize ((Nat.log2 q : ℕ) : ℤ) = lq at *
  -- the quotient of the two binades lies in `(2^(lp-lq-1), 2^(lp-lq+1))`; the test picks the half
  have hup : (p : ℚ) / q < (2 : ℚ) ^ (lp - lq + 1) := by
    rw [show lp - lq + 1 = lp + 1 - lq by ring, zpow_sub₀ two_ne]
    exact div_lt_div₀ hp2 hq1 (two_zpow_pos _).le (two_zpow_pos _)
  have hlo : (2 : ℚ) ^ (lp - lq - 1) < (p : ℚ) / q := by
    rw [show lp - lq - 1 = lp - (lq + 1) by ring, zpow_sub₀ two_ne]
    exact div_lt_div₀' hp1 hq2 hpq hqq
  split_ifs with h
  · exact ⟨h, hup⟩
  · exact ⟨hlo.le, by rw [sub_add_cancel]; exact not_le.mp h⟩

theorem rnePos_spec (p q : ℕ) (hp : 0 < p) (hq : 0 < q) :
    ∃ m : ℕ, |(p : ℚ) / q / (2 : ℚ) ^ (max (ilog2 p q - 52) (-1074)) - m| ≤ 1 / 2 ∧
      rnePos p q = if max (ilog2 p q - 52) (-1074) + 53 > 1024 ∨
          (max (ilog2 p q - 52) (-1074) + 53 = 1024 ∧ m ≥ 2 ^ 53) then none
        else some ((m : ℚ) * (2 : ℚ) ^ (max (ilog2 p q - 52) (-1074))) := by
  unfold rnePos
  simp only [Nat.pos_iff_ne_zero.mp hp, if_false]
  generalize max (ilog2 p q - 52) (-1074) = e
  by_cases he : e ≥ 0
  · obtain ⟨k, rfl⟩ := Int.eq_ofNat_of_zero_le he
    simp only [he, if_true, Int.toNat_natCast, pow2_eq]
    refine ⟨rhe p (q * 2 ^ k), ?_, ?_⟩
    · rw [zpow_natCast, div_div]
      exact_mod_cast rhe_near p (q * 2 ^ k) (by positivity)
    · rw [zpow_natCast, Nat.cast_mul, Nat.cast_pow, Nat.cast_ofNat]
  · obtain ⟨k, hk⟩ := Int.eq_ofNat_of_zero_le (show 0 ≤ -e by omega)
    obtain rfl : e = -(k : ℤ) := by omega
    simp only [he, if_false, neg_neg, Int.toNat_natCast, pow2_eq]
    refine ⟨rhe (p * 2 ^ k) q, ?_, ?_⟩
    · rw [zpow_neg, zpow_natCast, div_inv_eq_mul, div_mul_eq_mul_div]
      exact_mod_cast rhe_near (p * 2 ^ k) q hq
    · rw [zpow_neg, zpow_natCast, Nat.cast_pow, Nat.cast_ofNat, div_eq_mul_inv]

theorem half_step {y c : ℚ} {e : ℤ} (h : |y / (2 : ℚ) ^ e - c| ≤ 1 / 2) :
    |y - c * (2 : ℚ) ^ e| ≤ (2 : ℚ) ^ e / 2 := by
  have hp := two_zpow_pos e
  rw [show y - c * (2 : ℚ) ^ e = (y / (2 : ℚ) ^ e - c) * (2 : ℚ) ^ e by
    rw [sub_mul, div_mul_cancel₀ y hp.ne'], abs_mul_two_zpow]
  linarith [mul_le_mul_of_nonneg_right h hp.le]

theorem grid_nearest (y : ℚ) (e : ℤ) (m : ℕ) (h : |y / (2 : ℚ) ^ e - m| ≤ 1 / 2) (k : ℤ) :
    |y - (m : ℚ) * (2 : ℚ) ^ e| ≤ |y - (k : ℚ) * (2 : ℚ) ^ e| := by
  by_cases hk : (m : ℚ) * (2 : ℚ) ^ e = k * (2 : ℚ) ^ e
  · rw [hk]
  · have h1 := int_gap m k e (by rwa [Int.cast_natCast])
    have h2 := abs_sub_le ((m : ℚ) * (2 : ℚ) ^ e) y (k * (2 : ℚ) ^ e)
    rw [Int.cast_natCast] at h1
    rw [abs_sub_comm _ y] at h2
    linarith [half_step h]

theorem rnePos_some (p q : ℕ) (hp : 0 < p) (hq : 0 < q) (r : ℚ) (h : rnePos p q = some r) :
    ∃ (lg e : ℤ) (m : ℕ), (2 : ℚ) ^ lg ≤ (p : ℚ) / q ∧ (p : ℚ) / q < (2 : ℚ) ^ (lg + 1) ∧
      e = max (lg - 52) (-1074) ∧ |(p : ℚ) / q / (2 : ℚ) ^ e - m| ≤ 1 / 2 ∧ r = m * (2 : ℚ) ^ e ∧
      (e + 53 = 1024 → m < 2 ^ 53) ∧ e + 53 ≤ 1024 := by
  obtain ⟨m, hm, hspec⟩ := rnePos_spec p q hp hq
  obtain ⟨hlo, hhi⟩ := ilog2_spec p q hp hq
  rw [hspec] at h
  split at h
  · cases h
  rename_i hov
  push Not at hov
  exact ⟨_, _, m, hlo, hhi, rfl, hm, (Option.some.inj h).symm, hov.2, by omega⟩

theorem rnePos_nearest (p q : ℕ) (hp : 0 < p) (hq : 0 < q) (r : ℚ) (h : rnePos p q = some r) :
    IsNearestF64 ((p : ℚ) / q) r := by
  obtain ⟨lg, e, m, hlo, hhi, he, hm, rfl, hov, hov'⟩ := rnePos_some p q hp hq r h
  generalize (p : ℚ) / q = y at *
  have hpe := two_zpow_pos e
  have ht : y / (2 : ℚ) ^ e < 2 ^ 53 := by
    rw [div_lt_iff₀ hpe]
    calc y < (2 : ℚ) ^ (lg + 1) := hhi
      _ ≤ (2 : ℚ) ^ (53 + e) := zpow_le_zpow_right₀ (by norm_num) (by omega)
      _ = 2 ^ 53 * (2 : ℚ) ^ e := by rw [zpow_add₀ two_ne, zpow_ofNat]
  have hmle : m ≤ 2 ^ 53 := by
    have : (m : ℚ) < ((2 ^ 53 + 1 : ℕ) : ℚ) := by push_cast; linarith [(abs_le.mp hm).1]
    have : m < 2 ^ 53 + 1 := by exact_mod_cast this
    omega
  refine ⟨?_, ?_⟩
  · rcases Nat.lt_or_ge m (2 ^ 53) with hlt | hge
    · refine ⟨(m : ℤ), e, ?_, by omega, by omega, by push_cast; ring⟩
      rw [abs_of_nonneg (by positivity)]; exact_mod_cast hlt
    · -- the mantissa was rounded up to `2⁵³`: the next binade
      refine ⟨2 ^ 52, e + 1, by norm_num, by omega, by omega, ?_⟩
      rw [le_antisymm hmle hge, zpow_add₀ two_ne]; push_cast; ring
  · rintro z ⟨m', e', hm', he'1, he'2, rfl⟩
    rcases le_or_gt e e' with hle | hlt
    · obtain ⟨a, ha⟩ := rescale m' e' e hle
      rw [ha]; exact grid_nearest y e m hm a
    · -- `z` has a finer exponent, so it lies below `2^lg ≤ y`, and `2^lg` is on the grid
      have hlg : (2 : ℚ) ^ lg = 2 ^ 52 * (2 : ℚ) ^ e := by
        rw [show lg = 52 + e by omega, zpow_add₀ two_ne, zpow_ofNat]
      have hg := grid_nearest y e m hm (2 ^ 52)
      have hz := le_trans (le_abs_self _) (abs_le_of_exp_lt hm' hlt)
      rw [Int.cast_pow, Int.cast_ofNat, ← hlg, abs_of_nonneg (sub_nonneg.mpr hlo)] at hg
      rw [abs_of_nonneg (show 0 ≤ y - (m' : ℚ) * (2 : ℚ) ^ e' by linarith)]
      linarith

theorem abs_eq_natAbs_div (y : ℚ) : |y| = (y.num.natAbs : ℚ) / (y.den : ℚ) := by
  have hd : (0 : ℚ) < y.den := by exact_mod_cast y.den_pos
  conv_lhs => rw [← Rat.num_div_den y]
  rw [abs_div, abs_of_pos hd]
  congr 1
  rw [← Int.cast_abs, Int.abs_eq_natAbs]; simp

theorem rnePos_zero (q : ℕ) : rnePos 0 q = some 0 := by unfold rnePos; simp

theorem rne_elim {P : ℚ → ℚ → Prop} (h0 : P 0 0) (hneg : ∀ y r, P y r → P (-y) (-r))
    (hpos : ∀ p q : ℕ, 0 < p → 0 < q → ∀ r, rnePos p q = some r → P (p / q) r)
    {y r : ℚ} (h : rne y = some r) : P y r := by
  unfold rne at h
  have habs := abs_eq_natAbs_div y
  rcases Nat.eq_zero_or_pos y.num.natAbs with hz | hp
  · obtain rfl : y = 0 := Rat.num_eq_zero.mp (Int.natAbs_eq_zero.mp hz)
    obtain rfl : r = 0 := by simpa [rnePos_zero] using h.symm
    exact h0
  by_cases hy : y < 0
  · simp only [hy, if_true, Option.map_eq_some_iff] at h
    obtain ⟨r', hr', rfl⟩ := h
    have := hneg _ _ (hpos _ _ hp y.den_pos r' hr')
    rwa [← habs, abs_of_neg hy, neg_neg] at this
  · rw [if_neg hy] at h
    have := hpos _ _ hp y.den_pos r h
    rwa [← habs, abs_of_nonneg (not_lt.mp hy)] at this

theorem rne_nearest (y r : ℚ) (h : rne y = some r) : IsNearestF64 y r :=
  rne_elim (P := IsNearestF64) ⟨isF64_zero, fun z _ => by simp⟩ (fun _ _ => isNearest_neg) rnePos_nearest h

theorem rne_isSome (y : ℚ) : (rne y).isSome = (rnePos y.num.natAbs y.den).isSome := by
  unfold rne
  split <;> simp

/-- largest magnitude a rational close to a binary64 value can have -/
def closeBound : ℚ := (2 ^ 53 - 1) * (2 : ℚ) ^ (971 : ℤ) * (1 + 1 / 2 ^ 55)

theorem abs_le_closeBound {x y : ℚ} (hx : IsF64 x) (hc : Close x y) : |y| ≤ closeBound := by
  obtain ⟨m, e, hm, -, he, rfl⟩ := hx
  unfold Close at hc
  unfold closeBound
  have h1 := abs_le_of_mant hm e
  have h2 : (2 : ℚ) ^ e ≤ (2 : ℚ) ^ (971 : ℤ) := zpow_le_zpow_right₀ (by norm_num) he
  have h3 := abs_sub_abs_le_abs_sub y ((m : ℚ) * (2 : ℚ) ^ e)
  linarith

theorem closeBound_lt : closeBound < (2 : ℚ) ^ (1024 : ℤ) := by
  unfold closeBound
  rw [show (1024 : ℤ) = 53 + 971 by norm_num, zpow_add₀ two_ne, zpow_ofNat _ 53]
  have := two_zpow_pos 971
  generalize (2 : ℚ) ^ (971 : ℤ) = A at this ⊢
  linarith

theorem rnePos_isSome (p q : ℕ) (hp : 0 < p) (hq : 0 < q) (hb : (p : ℚ) / q ≤ closeBound) :
    (rnePos p q).isSome = true := by
  obtain ⟨m, hm, hspec⟩ := rnePos_spec p q hp hq
  obtain ⟨hlo, -⟩ := ilog2_spec p q hp hq
  generalize ilog2 p q = lg at *
  have hlg : lg < 1024 := (zpow_lt_zpow_iff_right₀ (by norm_num : (1 : ℚ) < 2)).mp
    (lt_of_le_of_lt hlo (lt_of_le_of_lt hb closeBound_lt))
  rw [hspec, if_neg, Option.isSome_some]
  rintro (hov | ⟨hov, hm53⟩)
  · omega
  · -- at the top exponent the bound keeps the scaled value below `2⁵³ − 1/2`
    rw [show max (lg - 52) (-1074) = 971 by omega] at hm
    unfold closeBound at hb
    have hA := two_zpow_pos 971
    generalize (2 : ℚ) ^ (971 : ℤ) = A at *
    rw [abs_le, le_sub_iff_add_le, le_div_iff₀ hA] at hm
    have : ((2 ^ 53 : ℕ) : ℚ) ≤ m := by exact_mod_cast hm53
    have := mul_le_mul_of_nonneg_right this hA.le
    push_cast at this
    linarith [hm.1]

theorem rne_isSome_of_abs_le (y : ℚ) (hb : |y| ≤ closeBound) : (rne y).isSome = true := by
  rw [abs_eq_natAbs_div] at hb
  rw [rne_isSome]
  rcases Nat.eq_zero_or_pos y.num.natAbs with h0 | hp
  · rw [h0, rnePos_zero]; rfl
  · exact rnePos_isSome _ _ hp y.den_pos hb

theorem rne_isSome_of_close (x y : ℚ) (hx : IsF64 x) (hc : Close x y) : (rne y).isSome = true :=
  rne_isSome_of_abs_le y (abs_le_closeBound hx hc)

/-- relative `2⁻⁵³` is half a unit in the last place of the binade, `2⁻¹⁰⁷⁵` half the subnormal
spacing -/
theorem rnePos_err (p q : ℕ) (hp : 0 < p) (hq : 0 < q) (r : ℚ) (h : rnePos p q = some r) :
    |r - (p : ℚ) / q| ≤ (p : ℚ) / q / 2 ^ 53 ∨
      ((p : ℚ) / q < (2 : ℚ) ^ (-1022 : ℤ) ∧ |r - (p : ℚ) / q| ≤ (2 : ℚ) ^ (-1075 : ℤ)) := by
  obtain ⟨lg, e, m, hlo, hhi, he, hm, rfl, -, -⟩ := rnePos_some p q hp hq r h
  generalize (p : ℚ) / q = y at *
  have h1 := half_step hm
  rw [abs_sub_comm] at h1
  rcases max_cases (lg - 52) (-1074) with ⟨h2, _⟩ | ⟨h2, h3⟩ <;> rw [h2] at he <;> subst he
  · left
    have : (2 : ℚ) ^ (lg - 52) / 2 = (2 : ℚ) ^ lg / 2 ^ 53 := by
      rw [zpow_sub₀ two_ne]; norm_num; ring
    linarith
  · right
    refine ⟨lt_of_lt_of_le hhi (zpow_le_zpow_right₀ (by norm_num) (by omega)), ?_⟩
    rwa [show (-1075 : ℤ) = -1074 - 1 by norm_num, zpow_sub_one₀ two_ne, ← div_eq_mul_inv]

theorem rne_err_cases (y r : ℚ) (h : rne y = some r) :
    |r - y| ≤ |y| / 2 ^ 53 ∨ (|y| < (2 : ℚ) ^ (-1022 : ℤ) ∧ |r - y| ≤ (2 : ℚ) ^ (-1075 : ℤ)) :=
  rne_elim (P := fun y r => |r - y| ≤ |y| / 2 ^ 53 ∨
      (|y| < (2 : ℚ) ^ (-1022 : ℤ) ∧ |r - y| ≤ (2 : ℚ) ^ (-1075 : ℤ)))
    (by simp)
    (fun y r h => by rwa [abs_neg, neg_sub_neg, abs_sub_comm])
    (fun p q hp hq r h => by
      rw [abs_of_nonneg (show (0 : ℚ) ≤ (p : ℚ) / q by positivity)]
      exact rnePos_err p q hp hq r h) h

theorem rne_err_normal (y r : ℚ) (h : rne y = some r) (hy : (2 : ℚ) ^ (-1022 : ℤ) ≤ |y|) :
    |r - y| ≤ |y| / 2 ^ 53 :=
  (rne_err_cases y r h).resolve_right fun h' => absurd h'.1 (not_lt.mpr hy)

theorem rne_err (y r : ℚ) (h : rne y = some r) : |r - y| ≤ |y| / 2 ^ 53 + (2 : ℚ) ^ (-1075 : ℤ) := by
  have h1 := two_zpow_pos (-1075)
  have h2 : 0 ≤ |y| / 2 ^ 53 := by positivity
  rcases rne_err_cases y r h with h | ⟨-, h⟩ <;> linarith

theorem rne_nonneg (y r : ℚ) (hy : 0 ≤ y) (h : rne y = some r) : 0 ≤ r := by
  by_contra hr
  have := (rne_nearest y r h).2 0 isF64_zero
  rw [sub_zero, abs_of_nonneg hy, abs_of_pos (by linarith)] at this
  linarith

theorem two_pow_le_closeBound {n : ℕ} (hn : n ≤ 1023) : (2 : ℚ) ^ n ≤ closeBound := by
  unfold closeBound
  have h1 : (2 : ℚ) ^ n ≤ (2 : ℚ) ^ (1023 : ℤ) := by
    rw [← zpow_natCast]; exact zpow_le_zpow_right₀ (by norm_num) (by exact_mod_cast hn)
  rw [show (1023 : ℤ) = 52 + 971 by norm_num, zpow_add₀ two_ne, zpow_ofNat _ 52] at h1
  have := two_zpow_pos 971
  generalize (2 : ℚ) ^ (971 : ℤ) = A at this h1 ⊢
  linarith

/-- the instance that `rne_small` (Lemmas/Bag.lean) uses -/
theorem closeBound_ge : (2 : ℚ) ^ 40 ≤ closeBound := two_pow_le_closeBound (by norm_num)

/-- text → double with the model's own `rne`: no hypothesis on the conversion is left -/
theorem rne_eq_of_close (x y : ℚ) (hx : IsF64 x) (hc : Close x y) : rne y = some x := by
  obtain ⟨r, hr⟩ := Option.isSome_iff_exists.mp (rne_isSome_of_close x y hx hc)
  rw [hr, nearest_of_close hx hc (rne_nearest y r hr)]

theorem rne_id (x : ℚ) (hx : IsF64 x) : rne x = some x :=
  rne_eq_of_close x x hx (by unfold Close; simp; positivity)

theorem rne_zero : rne 0 = some 0 := by decide +kernel

end Evo.F64
