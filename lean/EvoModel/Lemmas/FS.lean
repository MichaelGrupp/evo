/-
C19 — soundness of a static discipline ("type system") for programs of file-system steps:
every program accepted by `Ok` (writes only to its own temp files, renames only complete
well-formed temp files, creates the directory with exist_ok, reads only what it knows to exist)
keeps `Consistent` (hence `Safe`) in every interleaving with any number of other accepted
programs, whatever their crash points, and never fails.
-/
import EvoModel.Model.SettingsProc
namespace Evo.FS

/-- what a process knows about one of its own temp files -/
inductive TmpSt | unknown | opened | torn | good
  deriving DecidableEq

/-- per-process knowledge that no other (accepted) process can invalidate -/
structure Facts where
  dir : Bool := false              -- `~/.evo` exists
  ex : Tgt → Bool := fun _ => false   -- the target exists (files are never removed)
  tmp : Tgt → TmpSt := fun _ => .unknown
  rdAny : Bool := false            -- register `rd` holds a document
  rdGood : Bool := false           -- … with every default key
  loaded : Bool := false           -- register `loaded` holds a document with every default key
  sGood : Bool := false            -- settings absent or complete with every default key, from now on

def Facts.setEx (F : Facts) (t : Tgt) : Facts := { F with ex := fun u => if u = t then true else F.ex u }
def Facts.setTmp (F : Facts) (t : Tgt) (s : TmpSt) : Facts :=
  { F with tmp := fun u => if u = t then s else F.tmp u }
def Facts.afterRead (F : Facts) : Reg → Facts
  | .rd => { F with rdAny := true, rdGood := F.sGood }
  | .loaded => { F with loaded := F.sGood }
  | .scratch => F
def Facts.afterReplace (F : Facts) : Tgt → Facts
  | .S => { (F.setTmp .S .unknown).setEx .S with sGood := true }
  | .V => (F.setTmp .V .unknown).setEx .V

def KeyMono (f : Doc → Doc) : Prop := ∀ d, hasDefaults d = true → hasDefaults (f d) = true

def SrcOk (F : Facts) : Tgt → Src → Prop
  | .V, .version => True
  | .S, .defaults => True
  | .S, .upgraded => F.rdAny = true
  | .S, .edit _ f => F.rdGood = true ∧ KeyMono f
  | _, _ => False

/-- the static discipline; `post` is what must be known when the program ends.  The absent branches of
`ifExists` and the current branch of `readVer` go on with `sGood`: in a `Consistent` home a missing settings
file, a missing version file or a current version stamp each mean `Good` (those cases of `step_sound`). -/
def Ok (post : Facts → Prop) : Facts → Prog → Prop
  | F, .done => post F
  | F, .mkdirOk k => Ok post { F with dir := true } k
  | _, .mkdirStrict _ => False
  | F, .ifDir y n => Ok post { F with dir := true } y ∧ Ok post F n
  | F, .ifExists .S y n => Ok post (F.setEx .S) y ∧ Ok post { F with sGood := true } n
  | F, .ifExists .V y n => Ok post (F.setEx .V) y ∧ Ok post { F with sGood := true } n
  | F, .openW (.myTmp t) k => F.dir = true ∧ Ok post (F.setTmp t .opened) k
  | _, .openW (.target _) _ => False
  | F, .write (.myTmp t) s k => F.tmp t = .opened ∧ SrcOk F t s ∧ Ok post (F.setTmp t .good) k
  | _, .write (.target _) _ _ => False
  | F, .writeRest (.myTmp t) s k => F.tmp t = .torn ∧ SrcOk F t s ∧ Ok post (F.setTmp t .good) k
  | _, .writeRest (.target _) _ _ => False
  | F, .close _ k => Ok post F k
  | F, .replace t k => F.tmp t = .good ∧ (t = .V → F.sGood = true) ∧ Ok post (F.afterReplace t) k
  | F, .readVer c o => F.ex .V = true ∧ Ok post { F with sGood := true } c ∧ Ok post F o
  | F, .readDoc r k => F.ex .S = true ∧ Ok post (F.afterRead r) k

structure Holds (pid : Nat) (F : Facts) (r : Regs) (fs : FS) : Prop where
  dir : F.dir = true → fs.dir = true
  ex : ∀ t, F.ex t = true → fs.file (.file t) ≠ .absent
  opened : ∀ t, F.tmp t = .opened → fs.file (.tmp t pid) = .empty
  torn : ∀ t, F.tmp t = .torn → fs.file (.tmp t pid) = .torn
  goodS : F.tmp .S = .good → (fs.file (.tmp .S pid)).wf = true
  goodV : F.tmp .V = .good → fs.file (.tmp .V pid) = .full (.ver current)
  rdAny : F.rdAny = true → ∃ d, r.rd = some d
  rdGood : F.rdGood = true → ∃ d, r.rd = some d ∧ hasDefaults d = true
  loaded : F.loaded = true → ∃ d, r.loaded = some d ∧ hasDefaults d = true
  sGood : F.sGood = true → Good fs

/-- what a step of process `i` can do to the others' view, whatever its program -/
structure Interf (i : Nat) (fs fs' : FS) : Prop where
  dir : fs.dir = true → fs'.dir = true
  ex : ∀ t, fs.file (.file t) ≠ .absent → fs'.file (.file t) ≠ .absent
  tmp : ∀ t j, j ≠ i → fs'.file (.tmp t j) = fs.file (.tmp t j)

theorem Interf.refl (i : Nat) (fs : FS) : Interf i fs fs := ⟨id, fun _ h => h, fun _ _ _ => rfl⟩

@[simp] theorem FS.set_dir (fs : FS) (p : Path) (f : File) : (fs.set p f).dir = fs.dir := rfl
@[simp] theorem FS.set_file (fs : FS) (p q : Path) (f : File) :
    (fs.set p f).file q = if q = p then f else fs.file q := rfl

theorem wf_isDoc {f : File} (h : f.wf = true) : f.isDoc = true := by
  cases f with
  | full t => cases t <;> simp_all [File.wf, File.isDoc]
  | _ => simp [File.wf] at h

theorem wf_ne_absent {f : File} (h : f.wf = true) : f ≠ .absent := by
  intro h'; subst h'; simp [File.wf] at h

theorem Good.safe {fs : FS} (h : Good fs) : Safe fs := h.imp id wf_isDoc

theorem Holds.stable {pid i : Nat} {F : Facts} {r : Regs} {fs fs' : FS}
    (h : Holds pid F r fs) (hi : Interf i fs fs') (hg : Good fs → Good fs') (hne : pid ≠ i) :
    Holds pid F r fs' where
  dir := fun hF => hi.dir (h.dir hF)
  ex := fun t hF => hi.ex t (h.ex t hF)
  opened := fun t hF => by rw [hi.tmp t pid hne]; exact h.opened t hF
  torn := fun t hF => by rw [hi.tmp t pid hne]; exact h.torn t hF
  goodS := fun hF => by rw [hi.tmp .S pid hne]; exact h.goodS hF
  goodV := fun hF => by rw [hi.tmp .V pid hne]; exact h.goodV hF
  rdAny := h.rdAny
  rdGood := h.rdGood
  loaded := h.loaded
  sGood := fun hF => hg (h.sGood hF)

theorem hasDefaults_iff {d : Doc} : hasDefaults d = true ↔ Evo.Gen.defaultKeys ⊆ d := by
  simp [hasDefaults, List.subset_def]

theorem hasDefaults_upgrade (d : Doc) : hasDefaults (upgrade d) = true := by
  refine hasDefaults_iff.mpr fun k hk => List.mem_append.mpr ?_
  by_cases h : k ∈ d
  · exact .inl h
  · exact .inr (List.mem_filter.mpr ⟨hk, by simpa using h⟩)

theorem hasDefaults_defaults : hasDefaults Evo.Gen.defaultKeys = true :=
  hasDefaults_iff.mpr (List.Subset.refl _)

theorem setTmp_cons {fs : FS} (t : Tgt) (pid : Nat) (f : File) (h : Consistent fs) :
    Consistent (fs.set (.tmp t pid) f) := by
  simpa [Consistent, Safe, Good] using h

theorem setTmp_good {fs : FS} (t : Tgt) (pid : Nat) (f : File) (h : Good fs) :
    Good (fs.set (.tmp t pid) f) := by
  simpa [Good] using h

theorem setTmp_interf (fs : FS) (t : Tgt) (pid : Nat) (f : File) :
    Interf pid fs (fs.set (.tmp t pid) f) where
  dir := id
  ex := fun u h => by simpa using h
  tmp := fun u j hj => by simp [hj]

theorem Holds.setTmp {pid : Nat} {F : Facts} {r : Regs} {fs : FS} (h : Holds pid F r fs)
    (t : Tgt) (st : TmpSt) (f : File)
    (ho : st = .opened → f = .empty) (ht : st = .torn → f = .torn)
    (hs : st = .good → t = .S → f.wf = true) (hv : st = .good → t = .V → f = .full (.ver current)) :
    Holds pid (F.setTmp t st) r (fs.set (.tmp t pid) f) := by
  have key : ∀ u st', (F.setTmp t st).tmp u = st' → (u = t ∧ st = st') ∨ (u ≠ t ∧ F.tmp u = st') := fun u st' hu => by
    by_cases hut : u = t <;> simp_all [Facts.setTmp]
  exact
  { h with
    ex := fun u hF => by simpa using h.ex u hF
    opened := fun u hF => by
      rcases key u _ hF with ⟨rfl, e⟩ | ⟨hu, e⟩
      · simp [ho e]
      · simp [hu, h.opened u e]
    torn := fun u hF => by
      rcases key u _ hF with ⟨rfl, e⟩ | ⟨hu, e⟩
      · simp [ht e]
      · simp [hu, h.torn u e]
    goodS := fun hF => by
      rcases key _ _ hF with ⟨rfl, e⟩ | ⟨hu, e⟩
      · simp [hs e rfl]
      · simp [hu, h.goodS e]
    goodV := fun hF => by
      rcases key _ _ hF with ⟨rfl, e⟩ | ⟨hu, e⟩
      · simp [hv e rfl]
      · simp [hu, h.goodV e]
    sGood := fun hF => setTmp_good t pid f (h.sGood hF) }

theorem SrcOk.text {F : Facts} {pid : Nat} {r : Regs} {fs : FS} {t : Tgt} {s : Src}
    (h : SrcOk F t s) (hh : Holds pid F r fs) :
    ∃ tx, s.text r = some tx ∧ (t = .S → (File.full tx).wf = true) ∧ (t = .V → tx = .ver current) := by
  cases t <;> cases s <;> simp only [SrcOk] at h
  · exact ⟨_, rfl, fun _ => by simp [File.wf, hasDefaults_defaults], fun h => by cases h⟩
  · obtain ⟨d, hd⟩ := hh.rdAny h
    exact ⟨.doc (upgrade d), by simp [Src.text, hd], fun _ => by simp [File.wf, hasDefaults_upgrade],
      fun h => by cases h⟩
  · obtain ⟨d, hd, hk⟩ := hh.rdGood h.1
    exact ⟨.doc (_), by simp [Src.text, hd]; rfl, fun _ => by simp [File.wf, h.2 d hk], fun h => by cases h⟩
  · exact ⟨_, rfl, fun h => (by cases h), fun _ => rfl⟩

structure StepOut (post : Facts → Prop) (pid : Nat) (p' : Proc) (fs fs' : FS) : Prop where
  nofail : p'.failed = false
  facts : ∃ F', Ok post F' p'.prog ∧ Holds pid F' p'.regs fs'
  cons : Consistent fs'
  good : Good fs → Good fs'
  interf : Interf pid fs fs'

theorem StepOut.same {post : Facts → Prop} {pid : Nat} {p' : Proc} {fs : FS}
    (hnf : p'.failed = false) (hf : ∃ F', Ok post F' p'.prog ∧ Holds pid F' p'.regs fs)
    (hc : Consistent fs) : StepOut post pid p' fs fs :=
  ⟨hnf, hf, hc, id, Interf.refl _ _⟩

theorem StepOut.setTmp {post : Facts → Prop} {pid : Nat} {p' : Proc} {fs : FS} {t : Tgt} {f : File}
    (hnf : p'.failed = false) (hf : ∃ F', Ok post F' p'.prog ∧ Holds pid F' p'.regs (fs.set (.tmp t pid) f))
    (hc : Consistent fs) : StepOut post pid p' fs (fs.set (.tmp t pid) f) :=
  ⟨hnf, hf, setTmp_cons _ _ _ hc, setTmp_good _ _ _, setTmp_interf _ _ _ _⟩

theorem Facts.setTmp_setTmp (F : Facts) (t : Tgt) (a b : TmpSt) : (F.setTmp t a).setTmp t b = F.setTmp t b := by
  unfold Facts.setTmp
  congr 1
  funext u
  by_cases h : u = t <;> simp [h]

theorem SrcOk.mono {F G : Facts} {t : Tgt} {s : Src} (h : SrcOk F t s)
    (h1 : G.rdAny = F.rdAny) (h2 : G.rdGood = F.rdGood) : SrcOk G t s := by
  cases t <;> cases s <;> simp_all [SrcOk]

theorem Facts.afterReplace_setTmp (F : Facts) (t : Tgt) (a : TmpSt) :
    (F.setTmp t a).afterReplace t = F.afterReplace t := by
  cases t <;> simp only [Facts.afterReplace, Facts.setTmp_setTmp]

theorem Ok.writeAtomic {post : Facts → Prop} {F : Facts} {t : Tgt} {s : Src} {k : Prog}
    (hd : F.dir = true) (hs : SrcOk F t s) (hv : t = .V → F.sGood = true) (hk : Ok post (F.afterReplace t) k) :
    Ok post F (writeAtomic t s k) := by
  refine ⟨hd, by simp [Facts.setTmp], hs.mono rfl rfl, by simp [Facts.setTmp], hv, ?_⟩
  rwa [Facts.afterReplace_setTmp, Facts.afterReplace_setTmp]

theorem Holds.setFile {pid : Nat} {F : Facts} {r : Regs} {fs : FS} (h : Holds pid F r fs) (t : Tgt) (f : File)
    (hf : f ≠ .absent) (hg : F.sGood = true → Good (fs.set (.file t) f)) :
    Holds pid (F.setEx t) r (fs.set (.file t) f) :=
  { h with
    ex := fun u hu => by
      by_cases hut : u = t
      · simpa [hut] using hf
      · simpa [hut] using h.ex u (by simpa [Facts.setEx, hut] using hu)
    opened := fun u hu => by simpa using h.opened u hu
    torn := fun u hu => by simpa using h.torn u hu
    goodS := fun hu => by simpa using h.goodS hu
    goodV := fun hu => by simpa using h.goodV hu
    sGood := hg }

theorem Holds.afterReplace {pid : Nat} {F : Facts} {r : Regs} {fs : FS} (h : Holds pid F r fs) (t : Tgt) (f : File)
    (hf : f ≠ .absent) (hG : Good ((fs.set (.file t) f).set (.tmp t pid) .absent)) :
    Holds pid (F.afterReplace t) r ((fs.set (.file t) f).set (.tmp t pid) .absent) := by
  have h1 := (h.setFile t f hf fun _ => by simpa [Good] using hG).setTmp t .unknown .absent
    (by simp) (by simp) (by simp) (by simp)
  cases t
  · exact { h1 with sGood := fun _ => hG }
  · exact h1

/-- **soundness of the discipline**: a step of an accepted, not failed process whose facts hold,
in a consistent state, does not fail, leaves an accepted program whose facts hold, keeps the state
consistent, never destroys `Good`, and interferes with nobody. -/
theorem step_sound {post : Facts → Prop} (pid : Nat) (tear : Bool) (p : Proc) (fs : FS) (F : Facts)
    (hok : Ok post F p.prog) (hh : Holds pid F p.regs fs) (hc : Consistent fs) (hnf : p.failed = false) :
    StepOut post pid (step pid tear p fs).1 fs (step pid tear p fs).2 := by
  obtain ⟨prog, regs, failed⟩ := p
  simp only at hnf hok hh
  subst hnf
  cases prog with
  | done => simpa [step] using StepOut.same rfl ⟨F, hok, hh⟩ hc
  | mkdirOk k =>
    exact ⟨rfl, ⟨_, hok, { hh with dir := fun _ => rfl }⟩, hc, id, ⟨fun _ => rfl, fun _ h => h, fun _ _ _ => rfl⟩⟩
  | mkdirStrict k => exact absurd hok (by simp [Ok])
  | ifDir y n =>
    simp only [step, Bool.false_eq_true, if_false]
    refine StepOut.same rfl ?_ hc
    by_cases hd : fs.dir = true
    · simp only [hd, if_true]
      exact ⟨_, hok.1, { hh with dir := fun _ => hd }⟩
    · simp only [hd]
      exact ⟨_, hok.2, hh⟩
  | ifExists t y n =>
    simp only [step, Bool.false_eq_true, if_false]
    refine StepOut.same rfl ?_ hc
    by_cases ha : fs.file (.file t) = .absent
    · simp only [ha, if_true]
      -- no settings file, or no version file in a consistent home: the settings are good
      have hg : Good fs := by
        cases t with
        | S => exact Or.inl ha
        | V => exact hc.2 (Or.inl ha)
      exact ⟨{ F with sGood := true }, by cases t <;> exact hok.2, { hh with sGood := fun _ => hg }⟩
    · simp only [ha, if_false]
      refine ⟨F.setEx t, by cases t <;> exact hok.1, { hh with ex := fun u hu => ?_ }⟩
      by_cases hut : u = t
      · exact hut ▸ ha
      · exact hh.ex u (by simpa [Facts.setEx, hut] using hu)
  | openW r k =>
    cases r with
    | target t => exact absurd hok (by simp [Ok])
    | myTmp t =>
      simp only [Ok] at hok
      simp only [step, Bool.false_eq_true, if_false, hh.dir hok.1, if_true, PRef.path]
      exact .setTmp rfl ⟨_, hok.2, hh.setTmp t .opened .empty (fun _ => rfl) (by simp) (by simp) (by simp)⟩ hc
  | write r s k =>
    cases r with
    | target t => exact absurd hok (by simp [Ok])
    | myTmp t =>
      simp only [Ok] at hok
      obtain ⟨tx, htx, hS, hV⟩ := hok.2.1.text hh
      simp only [step, Bool.false_eq_true, if_false, htx, PRef.path, hh.opened t hok.1]
      cases tear with
      | true =>
        refine .setTmp rfl ⟨F.setTmp t .torn, ⟨by simp [Facts.setTmp], hok.2.1.mono rfl rfl, ?_⟩,
          hh.setTmp t .torn .torn (by simp) (fun _ => rfl) (by simp) (by simp)⟩ hc
        rw [Facts.setTmp_setTmp]; exact hok.2.2
      | false =>
        exact .setTmp rfl ⟨_, hok.2.2, hh.setTmp t .good (.full tx) (by simp) (by simp) (fun _ h => hS h)
          (fun _ h => by rw [hV h])⟩ hc
  | writeRest r s k =>
    cases r with
    | target t => exact absurd hok (by simp [Ok])
    | myTmp t =>
      simp only [Ok] at hok
      obtain ⟨tx, htx, hS, hV⟩ := hok.2.1.text hh
      simp only [step, Bool.false_eq_true, if_false, htx, PRef.path, hh.torn t hok.1]
      exact .setTmp rfl ⟨_, hok.2.2, hh.setTmp t .good (.full tx) (by simp) (by simp) (fun _ h => hS h)
        (fun _ h => by rw [hV h])⟩ hc
  | close r k =>
    simp only [step, Bool.false_eq_true, if_false]
    exact StepOut.same rfl ⟨F, hok, hh⟩ hc
  | replace t k =>
    simp only [Ok] at hok
    obtain ⟨hgood, hVg, hk⟩ := hok
    -- the version file is replaced only where the settings are known good (`hVg`): a current version next to
    -- settings that lack default keys would not be `Consistent`
    have hf : fs.file (.tmp t pid) ≠ .absent ∧
        Good ((fs.set (.file t) (fs.file (.tmp t pid))).set (.tmp t pid) .absent) := by
      cases t with
      | S => exact ⟨wf_ne_absent (hh.goodS hgood), Or.inr (by simpa using hh.goodS hgood)⟩
      | V => exact ⟨by simp [hh.goodV hgood], by simpa [Good] using hh.sGood (hVg rfl)⟩
    have hstep : step pid tear ⟨.replace t k, regs, false⟩ fs =
        (⟨k, regs, false⟩, (fs.set (.file t) (fs.file (.tmp t pid))).set (.tmp t pid) .absent) := by
      simp only [step, Bool.false_eq_true, if_false]
      split
      · exact absurd ‹_› hf.1
      · rfl
    rw [hstep]
    refine ⟨rfl, ⟨_, hk, hh.afterReplace t _ hf.1 hf.2⟩, ⟨hf.2.safe, fun _ => hf.2⟩, fun _ => hf.2,
      id, fun u hu => ?_, fun u j hj => by simp [hj]⟩
    by_cases hut : u = t
    · simpa [hut] using hf.1
    · simpa [hut] using hu
  | readVer c o =>
    simp only [Ok] at hok
    obtain ⟨hex, hc', ho⟩ := hok
    have hna := hh.ex .V hex
    simp only [step, Bool.false_eq_true, if_false]
    split
    · next h => exact absurd h hna
    · next v h =>
      refine StepOut.same rfl ?_ hc
      by_cases hv : v = current
      · simp only [hv, if_true]
        exact ⟨_, hc', { hh with sGood := fun _ => hc.2 (Or.inr (hv ▸ h)) }⟩
      · simp only [hv, if_false]
        exact ⟨_, ho, hh⟩
    · exact StepOut.same rfl ⟨_, ho, hh⟩ hc
  | readDoc r k =>
    simp only [Ok] at hok
    obtain ⟨hex, hk⟩ := hok
    have hna := hh.ex .S hex
    -- a settings file that exists in a consistent home is a document
    obtain ⟨d, hd⟩ : ∃ d, fs.file (.file .S) = .full (.doc d) := by
      rcases hc.1 with h | h
      · exact absurd h hna
      · cases hf : fs.file (.file .S) with
        | full t => cases t with
          | doc d => exact ⟨d, rfl⟩
          | ver v => simp [hf, File.isDoc] at h
        | _ => simp [hf, File.isDoc] at h
    simp only [step, Bool.false_eq_true, if_false, hd]
    refine StepOut.same rfl ⟨_, hk, ?_⟩ hc
    have hgd : F.sGood = true → hasDefaults d = true := fun hs => by
      rcases hh.sGood hs with h | h
      · exact absurd h hna
      · simpa [hd, File.wf] using h
    cases r with
    | rd => exact { hh with rdAny := fun _ => ⟨d, rfl⟩, rdGood := fun hs => ⟨d, rfl, hgd hs⟩ }
    | loaded => exact { hh with loaded := fun hs => ⟨d, rfl, hgd hs⟩ }
    | scratch => exact hh

def PInv (post : Facts → Prop) (s : State) : Prop :=
  Consistent s.fs ∧ ∀ j p, s.procs[j]? = some p →
    p.failed = false ∧ ∃ F, Ok post F p.prog ∧ Holds j F p.regs s.fs

def Init (post : Facts → Prop) (s : State) : Prop :=
  Consistent s.fs ∧ ∀ p ∈ s.procs, p.failed = false ∧ Ok post {} p.prog

theorem Holds.empty (pid : Nat) (r : Regs) (fs : FS) : Holds pid {} r fs := by
  constructor <;> intros <;> simp_all

theorem init_pinv {post : Facts → Prop} {s : State} (h : Init post s) : PInv post s := by
  refine ⟨h.1, fun j p hp => ?_⟩
  obtain ⟨hnf, hok⟩ := h.2 p (List.mem_of_getElem? hp)
  exact ⟨hnf, {}, hok, Holds.empty _ _ _⟩

theorem sched_pinv {post : Facts → Prop} {s : State} (h : PInv post s) (i : Nat) (tear : Bool) :
    PInv post (s.sched i tear) ∧ (Good s.fs → Good (s.sched i tear).fs) := by
  unfold State.sched
  cases hi : s.procs[i]? with
  | none => exact ⟨h, id⟩
  | some p =>
    obtain ⟨hnf, F, hok, hh⟩ := h.2 i p hi
    have so := step_sound i tear p s.fs F hok hh h.1 hnf
    refine ⟨⟨so.cons, fun j q hq => ?_⟩, so.good⟩
    simp only [List.getElem?_set] at hq
    by_cases hij : i = j
    · subst hij
      simp only [(List.getElem?_eq_some_iff.mp hi).1, if_true] at hq
      cases hq
      exact ⟨so.nofail, so.facts⟩
    · simp only [hij, if_false] at hq
      obtain ⟨hnf', F', hok', hh'⟩ := h.2 j q hq
      exact ⟨hnf', F', hok', hh'.stable so.interf so.good (fun h => hij h.symm)⟩

theorem run_pinv {post : Facts → Prop} (sched : List (Nat × Bool)) {s : State} (h : PInv post s) :
    PInv post (run s sched) := by
  induction sched generalizing s with
  | nil => exact h
  | cons e rest ih => exact ih (sched_pinv h e.1 e.2).1

/-- every step of a process that does not fail uses up one unit of its program's size (`done` has none): the next
program is a direct part of the present one, or the `writeRest` after a torn `write`, which counts two; a failing
step keeps the program, hence `hnf` -/
theorem step_size (pid : Nat) (tear : Bool) (p : Proc) (fs : FS)
    (hnf : (step pid tear p fs).1.failed = false) :
    (step pid tear p fs).1.prog.size ≤ p.prog.size - 1 := by
  obtain ⟨prog, regs, failed⟩ := p
  cases failed with
  | true => simp [step] at hnf
  | false =>
    cases prog with
    | done => simp [step, Prog.size]
    | mkdirOk k => simp [step, Prog.size]
    | mkdirStrict k =>
      by_cases hd : fs.dir = true
      · simp [step, hd, Proc.fail] at hnf
      · simp [step, hd, Prog.size]
    | ifDir y n =>
      by_cases hd : fs.dir = true <;> simp [step, hd, Prog.size] <;> omega
    | ifExists t y n =>
      by_cases hd : fs.file (.file t) = .absent <;> simp [step, hd, Prog.size] <;> omega
    | openW r k =>
      by_cases hd : fs.dir = true
      · simp [step, hd, Prog.size]
      · simp [step, hd, Proc.fail] at hnf
    | write r s k =>
      simp only [step, Bool.false_eq_true, if_false] at hnf ⊢
      cases ht : s.text regs with
      | none => simp [ht, Proc.fail] at hnf
      | some t =>
        simp only []
        split
        · cases tear <;> simp [Prog.size]
        · simp [Prog.size]
    | writeRest r s k =>
      simp only [step, Bool.false_eq_true, if_false] at hnf ⊢
      cases ht : s.text regs with
      | none => simp [ht, Proc.fail] at hnf
      | some t =>
        simp only []
        split <;> simp [Prog.size]
    | close r k => simp [step, Prog.size]
    | replace t k =>
      simp only [step, Bool.false_eq_true, if_false] at hnf ⊢
      split at hnf
      · simp [Proc.fail] at hnf
      · simp [Prog.size]
    | readVer c o =>
      simp only [step, Bool.false_eq_true, if_false] at hnf ⊢
      split at hnf
      · simp [Proc.fail] at hnf
      · next v hv =>
        by_cases hc : v = current <;> simp [hc, Prog.size] <;> omega
      · simp [Prog.size]; omega
    | readDoc r k =>
      simp only [step, Bool.false_eq_true, if_false] at hnf ⊢
      split at hnf
      · simp [Prog.size]
      · simp [Proc.fail] at hnf

end Evo.FS
