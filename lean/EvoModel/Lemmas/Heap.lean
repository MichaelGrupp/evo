/-
Frame reasoning for `Model/Heap.lean`: every method of an object is *local* — it only writes
arrays the object reaches or freshly allocated ones, and afterwards reaches only such arrays.
Separation is preserved by local steps and implies non-interference.
-/
import EvoModel.Model.Heap
import EvoModel.Lemmas.ReduceIds
import Mathlib.Tactic.Ring
namespace Evo.Heap
open Evo Evo.Traj

@[simp] theorem alloc_next (h : Heap) (v : Val) : (h.alloc v).1.next = h.next + 1 := rfl
@[simp] theorem alloc_addr (h : Heap) (v : Val) : (h.alloc v).2 = h.next := rfl
theorem alloc_get (h : Heap) (v : Val) (a : Nat) (ha : a < h.next) : (h.alloc v).1.get a = h.get a := by
  simp only [Heap.alloc]; rw [if_neg (by omega)]
@[simp] theorem write_next (h : Heap) (a : Nat) (v : Val) : (h.write a v).next = h.next := rfl
theorem write_get (h : Heap) (a x : Nat) (v : Val) (hx : x ≠ a) : (h.write a v).get x = h.get x := by
  simp only [Heap.write]; rw [if_neg hx]

/-- the heap only grew: nothing that existed was written -/
structure Ext (h h' : Heap) : Prop where
  mono : h.next ≤ h'.next
  same : ∀ a, a < h.next → h'.get a = h.get a

theorem Ext.refl (h : Heap) : Ext h h := ⟨Nat.le_refl _, fun _ _ => rfl⟩
theorem Ext.trans {h1 h2 h3 : Heap} (a : Ext h1 h2) (b : Ext h2 h3) : Ext h1 h3 :=
  ⟨Nat.le_trans a.mono b.mono, fun x hx => by rw [b.same x (Nat.lt_of_lt_of_le hx a.mono), a.same x hx]⟩
theorem alloc_ext (h : Heap) (v : Val) : Ext h (h.alloc v).1 := ⟨by simp, fun a ha => alloc_get h v a ha⟩

/-- a stretch from `h` to `h'` that only allocates: nothing that existed was written, and every address with `p`
was allocated on the way -/
structure Allocs (h h' : Heap) (p : Nat → Prop) : Prop where
  ext : Ext h h'
  new : ∀ a, p a → h.next ≤ a ∧ a < h'.next

theorem Allocs.ofExt {h h' : Heap} (e : Ext h h') : Allocs h h' fun _ => False := ⟨e, nofun⟩

/-- one stretch after the other: the intermediate heap disappears from the bounds -/
theorem Allocs.trans {h h1 h2 : Heap} {p q : Nat → Prop} (A : Allocs h h1 p) (B : Allocs h1 h2 q) :
    Allocs h h2 fun a => p a ∨ q a :=
  ⟨A.ext.trans B.ext, fun a ha => ha.elim
    (fun m => ⟨(A.new a m).1, Nat.lt_of_lt_of_le (A.new a m).2 B.ext.mono⟩)
    (fun m => ⟨Nat.le_trans A.ext.mono (B.new a m).1, (B.new a m).2⟩)⟩

theorem Allocs.alloc (h : Heap) (v : Val) : Allocs h (h.alloc v).1 (· = (h.alloc v).2) :=
  ⟨alloc_ext h v, fun _ ha => ha ▸ ⟨Nat.le_refl _, Nat.lt_succ_self _⟩⟩

theorem Allocs.allocList (h : Heap) (vs : List Val) : Allocs h (h.allocList vs).1 (· ∈ (h.allocList vs).2) := by
  induction vs generalizing h with
  | nil => exact ⟨Ext.refl h, nofun⟩
  | cons v r ih =>
      obtain ⟨e, n⟩ := (Allocs.alloc h v).trans (ih (h.alloc v).1)
      exact ⟨e, fun a ha => n a (List.mem_cons.mp ha)⟩

theorem Allocs.optAlloc (h : Heap) (x : Option Nat) (f : Nat → Val) :
    Allocs h (optAlloc h x f).1 ((optAlloc h x f).2 = some ·) := by
  cases x with
  | none => exact ⟨Ext.refl h, nofun⟩
  | some a => exact ⟨alloc_ext h _, fun _ hb => (Allocs.alloc h _).new _ (Option.some.inj hb).symm⟩

theorem mem_reach {o : Obj} {a : Nat} :
    a ∈ o.reach ↔ o.pos? = some a ∨ o.quat? = some a ∨ o.stamps? = some a ∨ ∃ l, o.se3? = some l ∧ a ∈ l := by
  have h : a ∈ o.se3?.getD [] ↔ ∃ l, o.se3? = some l ∧ a ∈ l := by cases o.se3? <;> simp
  simp only [Obj.reach, List.mem_append, Option.mem_toList, or_assoc, h]

theorem forall_reach {o : Obj} {p : Nat → Prop} :
    (∀ a ∈ o.reach, p a) ↔ (∀ a, o.pos? = some a → p a) ∧ (∀ a, o.quat? = some a → p a) ∧
      (∀ a, o.stamps? = some a → p a) ∧ ∀ l, o.se3? = some l → ∀ a ∈ l, p a := by
  simp only [mem_reach]
  exact ⟨fun h => ⟨fun a ha => h a (.inl ha), fun a ha => h a (.inr (.inl ha)), fun a ha => h a (.inr (.inr (.inl ha))),
      fun l hl a ha => h a (.inr (.inr (.inr ⟨l, hl, ha⟩)))⟩,
    fun ⟨h1, h2, h3, h4⟩ a ha => ha.elim (h1 a) fun ha => ha.elim (h2 a) fun ha => ha.elim (h3 a)
      fun ⟨l, hl, ha⟩ => h4 l hl a ha⟩

theorem se3_reach {o : Obj} {l : List Nat} {a : Nat} (h : o.se3? = some l) (ha : a ∈ l) : a ∈ o.reach :=
  mem_reach.mpr (.inr (.inr (.inr ⟨l, h, ha⟩)))

theorem reach_of_fields {o o' : Obj} {p : Nat → Prop}
    (hp : o'.pos? = o.pos? ∨ ∀ a, o'.pos? = some a → p a)
    (hq : o'.quat? = o.quat? ∨ ∀ a, o'.quat? = some a → p a)
    (hs : o'.stamps? = o.stamps? ∨ ∀ a, o'.stamps? = some a → p a)
    (hm : o'.se3? = o.se3? ∨ ∀ l, o'.se3? = some l → ∀ a ∈ l, a ∈ o.reach ∨ p a) :
    ∀ a ∈ o'.reach, a ∈ o.reach ∨ p a :=
  forall_reach.mpr
    ⟨fun a ha => hp.elim (fun e => .inl (mem_reach.mpr (.inl (e ▸ ha)))) (fun n => .inr (n a ha)),
     fun a ha => hq.elim (fun e => .inl (mem_reach.mpr (.inr (.inl (e ▸ ha))))) (fun n => .inr (n a ha)),
     fun a ha => hs.elim (fun e => .inl (mem_reach.mpr (.inr (.inr (.inl (e ▸ ha)))))) (fun n => .inr (n a ha)),
     fun l hl a ha => hm.elim (fun e => .inl (se3_reach (e ▸ hl) ha)) (fun n => n l hl a ha)⟩

/-- every array the object reaches exists -/
def Wf (h : Heap) (o : Obj) : Prop := ∀ a ∈ o.reach, a < h.next

/-- all arrays of the object were allocated after `h` -/
def FreshSince (h : Heap) (o : Obj) : Prop := ∀ a ∈ o.reach, h.next ≤ a

/-- a *local* step of object `o`: arrays outside its reach are not written; afterwards it reaches
only arrays it reached before or fresh ones -/
structure Local (h : Heap) (o : Obj) (h' : Heap) (o' : Obj) : Prop where
  mono : h.next ≤ h'.next
  frame : ∀ a, a < h.next → a ∉ o.reach → h'.get a = h.get a
  reach : ∀ a ∈ o'.reach, a ∈ o.reach ∨ (h.next ≤ a ∧ a < h'.next)

theorem Local.refl (h : Heap) (o : Obj) : Local h o h o := ⟨Nat.le_refl _, fun _ _ _ => rfl, fun _ ha => Or.inl ha⟩

theorem Local.trans {h h1 h2 : Heap} {o o1 o2 : Obj} (a : Local h o h1 o1) (b : Local h1 o1 h2 o2) :
    Local h o h2 o2 := by
  refine ⟨Nat.le_trans a.mono b.mono, ?_, ?_⟩
  · intro x hx hn
    have h1x : x ∉ o1.reach := by
      intro hm
      rcases a.reach x hm with h' | h'
      · exact hn h'
      · omega
    rw [b.frame x (Nat.lt_of_lt_of_le hx a.mono) h1x, a.frame x hx hn]
  · intro x hx
    rcases b.reach x hx with h' | h'
    · rcases a.reach x h' with h'' | h''
      · exact Or.inl h''
      · exact Or.inr ⟨h''.1, Nat.lt_of_lt_of_le h''.2 b.mono⟩
    · exact Or.inr ⟨Nat.le_trans a.mono h'.1, h'.2⟩

theorem Local.wf {h h' : Heap} {o o' : Obj} (l : Local h o h' o') (w : Wf h o) : Wf h' o' := by
  intro a ha
  rcases l.reach a ha with h1 | h1
  · exact Nat.lt_of_lt_of_le (w a h1) l.mono
  · exact h1.2

/-- **frame rule**: a local step of `o` leaves every separated object as it was -/
theorem Local.noninterference {h h' : Heap} {o o' b : Obj} (l : Local h o h' o') (wb : Wf h b) (s : Sep o b) :
    view h' b = view h b ∧ Sep o' b ∧ Wf h' b := by
  refine ⟨?_, ?_, fun a ha => Nat.lt_of_lt_of_le (wb a ha) l.mono⟩
  · unfold view
    congr 1
    apply List.map_congr_left
    intro a ha
    exact l.frame a (wb a ha) (fun hm => s a hm ha)
  · intro x hx hb
    rcases l.reach x hx with h1 | h1
    · exact s x h1 hb
    · have := wb x hb; omega

theorem Local.ofExt {h h' : Heap} {o o' : Obj} (e : Ext h h')
    (r : ∀ a ∈ o'.reach, a ∈ o.reach ∨ (h.next ≤ a ∧ a < h'.next)) : Local h o h' o' :=
  ⟨e.mono, fun a ha _ => e.same a ha, r⟩

/-- `Local` and `Ext` together: nothing that existed was written, inside the reach of `o` either.  The lazy
`force…` steps and `reduce` are of this kind; the specs of derived objects (`associateOne_spec`, `merge_spec`,
`splitNew_spec`) need the `Ext` half of them. -/
def Grows (h : Heap) (o : Obj) (h' : Heap) (o' : Obj) : Prop := Ext h h' ∧ Local h o h' o'

theorem Grows.refl (h : Heap) (o : Obj) : Grows h o h o := ⟨Ext.refl h, Local.refl h o⟩

theorem Allocs.local {h h' : Heap} {o o' : Obj} {p : Nat → Prop} (A : Allocs h h' p)
    (r : ∀ a ∈ o'.reach, a ∈ o.reach ∨ p a) : Local h o h' o' :=
  Local.ofExt A.ext fun a ha => (r a ha).imp_right (A.new a)

theorem Allocs.grows {h h' : Heap} {o o' : Obj} {p : Nat → Prop} (A : Allocs h h' p)
    (r : ∀ a ∈ o'.reach, a ∈ o.reach ∨ p a) : Grows h o h' o' :=
  ⟨A.ext, A.local r⟩

theorem Allocs.fresh {h h' : Heap} {o' : Obj} {p : Nat → Prop} (A : Allocs h h' p) (r : ∀ a ∈ o'.reach, p a) :
    Ext h h' ∧ FreshSince h o' :=
  ⟨A.ext, fun a ha => (A.new a (r a ha)).1⟩

/-! ### each method is local

Which arrays a method allocates is read off as a chain of `Allocs`; `reach_of_fields` then says, slot by slot, where
the new object's arrays come from (`.inl rfl`: the old slot; `.inr`: the position in the chain). -/

theorem forceSe3_grows (h : Heap) (o : Obj) : Grows h o (forceSe3 h o).1 (forceSe3 h o).2 := by
  unfold forceSe3
  cases hs : o.se3? with
  | some l => exact Grows.refl h o
  | none =>
      exact (Allocs.allocList h _).grows (reach_of_fields (.inl rfl) (.inl rfl) (.inl rfl)
        (.inr fun l hl a ha => .inr (Option.some.inj hl ▸ ha)))

theorem forceSe3_se3 (h : Heap) (o : Obj) : ∃ l, (forceSe3 h o).2.se3? = some l := by
  unfold forceSe3
  cases hs : o.se3? with
  | some l => exact ⟨l, hs⟩
  | none => exact ⟨_, rfl⟩

theorem forcePos_grows (h : Heap) (o : Obj) : Grows h o (forcePos h o).1 (forcePos h o).2 := by
  unfold forcePos
  cases hs : o.pos? with
  | some l => exact Grows.refl h o
  | none =>
      exact (Allocs.alloc h _).grows (reach_of_fields (.inr fun _ ha => (Option.some.inj ha).symm)
        (.inl rfl) (.inl rfl) (.inl rfl))

theorem forceQuat_grows (h : Heap) (o : Obj) : Grows h o (forceQuat h o).1 (forceQuat h o).2 := by
  unfold forceQuat
  cases hs : o.quat? with
  | some l => exact Grows.refl h o
  | none =>
      exact (Allocs.alloc h _).grows (reach_of_fields (.inl rfl)
        (.inr fun _ ha => (Option.some.inj ha).symm) (.inl rfl) (.inl rfl))

/-- second half of `transform()`, after the matrices have been forced: a matrix list of old or new arrays,
then a new positions and a new quaternion array -/
theorem Local.setCaches {h1 h2 : Heap} {o1 : Obj} {as : List Nat} {p : Nat → Prop} (A : Allocs h1 h2 p)
    (m : ∀ b ∈ as, b ∈ o1.reach ∨ p b) (v w : Val) :
    Local h1 o1 ((h2.alloc v).1.alloc w).1
      { o1 with se3? := some as, pos? := some (h2.alloc v).2, quat? := some ((h2.alloc v).1.alloc w).2 } :=
  ((A.trans (Allocs.alloc h2 v)).trans (Allocs.alloc _ w)).local (reach_of_fields
    (.inr fun _ ha => .inl (.inr (Option.some.inj ha).symm)) (.inr fun _ ha => .inr (Option.some.inj ha).symm) (.inl rfl)
    (.inr fun _ hl a ha => (m a (Option.some.inj hl ▸ ha)).imp_right fun x => .inl (.inl x)))

/-- The `let`s repeat `Heap.transform` after its `forceSe3`, term by term, with `ps` and `keepFirst` left
free: `transform_local` is then `forceSe3_grows` followed by this (`.trans`), and their composition matches
`transform` by unfolding alone. -/
theorem transform_core_local (h1 : Heap) (o1 : Obj) (ps : List P) (keepFirst : Bool) :
    let old := o1.se3?.getD []
    let r :=
      (if keepFirst then
        let (h2, as) := h1.allocList ((ps.drop 1).map Val.mat)
        (h2, old.take 1 ++ as)
      else h1.allocList (ps.map Val.mat) : Heap × List Nat)
    let r3 := r.1.alloc (.vecs (ps.map (·.t)))
    let r4 := r3.1.alloc (.rots (ps.map (·.rot)))
    Local h1 o1 r4.1 { o1 with se3? := some r.2, pos? := some r3.2, quat? := some r4.2 } := by
  cases keepFirst with
  | true =>
      refine Local.setCaches (Allocs.allocList h1 ((ps.drop 1).map Val.mat)) (fun b hb => ?_) _ _
      rcases List.mem_append.mp hb with hb | hb
      · cases hs : o1.se3? with
        | none => simp [hs] at hb
        | some l => exact .inl (se3_reach hs (by simpa [hs] using List.mem_of_mem_take hb))
      · exact .inr hb
  | false => exact Local.setCaches (Allocs.allocList h1 (ps.map Val.mat)) (fun b hb => .inr hb) _ _

theorem transform_local (h : Heap) (o : Obj) (m : Mode) (T : P) (norm : Option Rat) :
    Local h o (transform h o m T norm).1 (transform h o m T norm).2 :=
  (forceSe3_grows h o).2.trans (transform_core_local _ _ _ _)

theorem scale_local (h : Heap) (o : Obj) (c : Rat) : Local h o (scale h o c).1 (scale h o c).2 := by
  unfold scale
  cases hs : o.se3? with
  | none =>
      cases hp : o.pos? with
      | none => exact Local.ofExt (Ext.refl h) (reach_of_fields (.inr nofun) (.inl rfl) (.inl rfl) (.inr nofun))
      | some p =>
          exact (Allocs.alloc h _).local (reach_of_fields (.inr fun _ ha => (Option.some.inj ha).symm)
            (.inl rfl) (.inl rfl) (.inr nofun))
  | some as =>
      have A := Allocs.allocList h (as.map (fun a => Val.mat (scalePose c (h.mat a))))
      cases hp : o.pos? with
      | none =>
          exact A.local (reach_of_fields (.inr nofun) (.inl rfl) (.inl rfl)
            (.inr fun _ hl a ha => .inr (Option.some.inj hl ▸ ha)))
      | some p =>
          exact (A.trans (Allocs.alloc _ _)).local (reach_of_fields
            (.inr fun _ ha => .inr (Option.some.inj ha).symm) (.inl rfl) (.inl rfl)
            (.inr fun _ hl a ha => .inr (.inl (Option.some.inj hl ▸ ha))))

theorem reduce_grows (h : Heap) (o : Obj) (ids : List Nat) : Grows h o (reduce h o ids).1 (reduce h o ids).2 :=
  (((Allocs.optAlloc h o.pos? _).trans (Allocs.optAlloc _ o.quat? _)).trans (Allocs.optAlloc _ o.stamps? _)).grows
    (reach_of_fields (.inr fun _ ha => .inl (.inl ha)) (.inr fun _ ha => .inl (.inr ha)) (.inr fun _ ha => .inr ha)
      (.inr fun l hl a ha => by
        obtain ⟨l0, hl0, rfl⟩ := Option.map_eq_some_iff.mp hl
        exact .inl (se3_reach hl0 (mem_reduceIds ha))))

theorem projWrite_spec (nd : Nat) (h : Heap) (as : List Nat) (qs : List (M3 Rat)) :
    (projWrite nd h as qs).next = h.next ∧ ∀ x, x ∉ as → (projWrite nd h as qs).get x = h.get x := by
  induction as generalizing h qs with
  | nil => exact ⟨rfl, fun _ _ => rfl⟩
  | cons a r ih =>
      -- whatever is written to `a` (the given rotation, or the old one when the rotations have run out)
      have step : ∀ v qs', (projWrite nd (h.write a v) r qs').next = h.next ∧
          ∀ x, x ∉ a :: r → (projWrite nd (h.write a v) r qs').get x = h.get x := by
        intro v qs'
        obtain ⟨n, g⟩ := ih (h.write a v) qs'
        refine ⟨n, fun x hx => ?_⟩
        obtain ⟨hxa, hxr⟩ := not_or.mp (mt List.mem_cons.mpr hx)
        rw [g x hxr, write_get _ _ _ _ hxa]
      cases qs with
      | nil => exact step _ _
      | cons q qs' => exact step _ _

theorem project_local (h : Heap) (o : Obj) (nd : Nat) (rots : List (M3 Rat)) :
    Local h o (project h o nd rots).1 (project h o nd rots).2 := by
  unfold project
  split
  · exact Local.refl h o
  · apply (forceSe3_grows h o).2.trans
    obtain ⟨n, g⟩ := projWrite_spec nd (forceSe3 h o).1 ((forceSe3 h o).2.se3?.getD []) rots
    obtain ⟨l, hl⟩ := forceSe3_se3 h o
    exact ⟨Nat.le_of_eq n.symm, fun a _ hn => g a fun hm => hn (se3_reach hl (by rwa [hl] at hm)),
      reach_of_fields (.inr nofun) (.inr nofun) (.inl rfl) (.inl rfl)⟩

theorem hstep_local (h : Heap) (o : Obj) (op : HOp) : Local h o (hstep h o op).1 (hstep h o op).2 := by
  cases op with
  | transform m T norm => exact transform_local h o m T norm
  | scale c => exact scale_local h o c
  | reduce ids => exact (reduce_grows h o ids).2
  | project nd rots => exact project_local h o nd rots
  | readPos => exact (forcePos_grows h o).2
  | readQuat => exact (forceQuat_grows h o).2
  | readSe3 => exact (forceSe3_grows h o).2

theorem hrun_local (h : Heap) (o : Obj) (ops : List HOp) : Local h o (hrun h o ops).1 (hrun h o ops).2 := by
  induction ops generalizing h o with
  | nil => exact Local.refl h o
  | cons op r ih => exact (hstep_local h o op).trans (ih _ _)

/-! ### derivations produce fresh objects -/

theorem copyCell_eq (h : Heap) (x : Option Nat) : copyCell h x = optAlloc h x h.get := by cases x <;> rfl

theorem deepcopy_spec (h : Heap) (o : Obj) : Ext h (deepcopy h o).1 ∧ FreshSince h (deepcopy h o).2 := by
  have A := fun g k =>
    ((Allocs.optAlloc h o.pos? h.get).trans (Allocs.optAlloc _ o.quat? g)).trans (Allocs.optAlloc _ o.stamps? k)
  simp only [deepcopy, copyCell_eq]
  cases o.se3? with
  | none =>
      exact (A _ _).fresh (forall_reach.mpr
        ⟨fun _ ha => .inl (.inl ha), fun _ ha => .inl (.inr ha), fun _ ha => .inr ha, nofun⟩)
  | some as =>
      exact ((A _ _).trans (Allocs.allocList _ (as.map h.get))).fresh (forall_reach.mpr
        ⟨fun _ ha => .inl (.inl (.inl ha)), fun _ ha => .inl (.inl (.inr ha)), fun _ ha => .inl (.inr ha),
          fun _ hl a ha => .inr (Option.some.inj hl ▸ ha)⟩)

theorem FreshSince.sep {h : Heap} {o b : Obj} (f : FreshSince h o) (wb : Wf h b) : Sep o b := by
  intro x hx hb; have := f x hx; have := wb x hb; omega

theorem Ext.wf {h h' : Heap} (e : Ext h h') {b : Obj} (wb : Wf h b) : Wf h' b :=
  fun a ha => Nat.lt_of_lt_of_le (wb a ha) e.mono

theorem Ext.view {h h' : Heap} (e : Ext h h') {b : Obj} (wb : Wf h b) : view h' b = view h b := by
  unfold Heap.view
  congr 1
  exact List.map_congr_left (fun a ha => e.same a (wb a ha))

theorem FreshSince.mono {h h1 : Heap} {o : Obj} (f : FreshSince h1 o) (e : h.next ≤ h1.next) : FreshSince h o :=
  fun a ha => Nat.le_trans e (f a ha)

/-- what the `…_spec` of a derivation gives (`d`): the derived object `c` is separated from every `x` that
existed before the call, and no history on `c` changes what `x` showed then -/
theorem derived_noninterference {h h' : Heap} {c x : Obj} (d : Ext h h' ∧ FreshSince h c) (wx : Wf h x) :
    Sep c x ∧ ∀ ops, view (hrun h' c ops).1 x = view h x :=
  ⟨d.2.sep wx, fun ops =>
    ((hrun_local h' c ops).noninterference (d.1.wf wx) (d.2.sep wx)).1.trans (d.1.view wx)⟩

theorem associateOne_spec (h : Heap) (o : Obj) (ids : List Nat) :
    Ext h (associateOne h o ids).1 ∧ FreshSince h (associateOne h o ids).2 := by
  unfold associateOne
  obtain ⟨e, f⟩ := deepcopy_spec h o
  obtain ⟨e2, l2⟩ := reduce_grows (deepcopy h o).1 (deepcopy h o).2 ids
  exact ⟨e.trans e2, fun a ha => (l2.reach a ha).elim (f a) fun h1 => Nat.le_trans e.mono h1.1⟩

theorem forceAll_ext (h : Heap) (os : List Obj) : Ext h (forceAll h os).1 := by
  induction os generalizing h with
  | nil => exact Ext.refl h
  | cons o r ih =>
      simp only [forceAll]
      exact (forcePos_grows h o).1.trans ((forceQuat_grows _ _).1.trans (ih _))

theorem merge_spec (h : Heap) (os : List Obj) :
    Ext h (merge h os).1 ∧ FreshSince h (merge h os).2.2 := by
  simp only [merge]
  have e1 := forceAll_ext h os
  generalize forceAll h os = r1 at e1
  exact ((((Allocs.ofExt e1).trans (Allocs.alloc _ _)).trans (Allocs.alloc _ _)).trans (Allocs.alloc _ _)).fresh
    (forall_reach.mpr ⟨fun _ ha => .inl (.inl (.inr (Option.some.inj ha).symm)),
      fun _ ha => .inl (.inr (Option.some.inj ha).symm), fun _ ha => .inr (Option.some.inj ha).symm, nofun⟩)

theorem fresh_cons {h h1 h2 : Heap} {c : Obj} {cs : List Obj} (a : Ext h h1 ∧ FreshSince h c)
    (b : Ext h1 h2 ∧ ∀ x ∈ cs, FreshSince h1 x) : Ext h h2 ∧ ∀ x ∈ c :: cs, FreshSince h x :=
  ⟨a.1.trans b.1, List.forall_mem_cons.mpr ⟨a.2, fun x hx => (b.2 x hx).mono a.1.mono⟩⟩

theorem partsNew_spec (h : Heap) (timed : Bool) (ms : List (List Nat)) (ss : List (List Rat)) :
    Ext h (partsNew h timed ms ss).1 ∧ ∀ p ∈ (partsNew h timed ms ss).2, FreshSince h p := by
  induction ms generalizing h ss with
  | nil => exact ⟨Ext.refl h, fun _ hp => nomatch hp⟩
  | cons m mr ih =>
      cases ss with
      | nil => exact ⟨Ext.refl h, fun _ hp => nomatch hp⟩
      | cons s sr =>
          exact fresh_cons (((Allocs.allocList h (m.map h.get)).trans (Allocs.optAlloc _ _ _)).fresh (forall_reach.mpr
            ⟨nofun, nofun, fun _ ha => .inr ha, fun _ hl a ha => .inl (Option.some.inj hl ▸ ha)⟩)) (ih _ sr)

/-- the third part is about the parent, whose matrix cache the splitter may fill (`self.poses_se3`) -/
theorem splitNew_spec (h : Heap) (o : Obj) (cut : Bool) (bounds : List Nat) :
    Ext h (splitNew h o cut bounds).1 ∧
    (∀ p ∈ (splitNew h o cut bounds).2.2, FreshSince h p) ∧
    Local h o (splitNew h o cut bounds).1 (splitNew h o cut bounds).2.1 := by
  unfold splitNew
  cases cut with
  | true =>
      simp only [if_true]
      obtain ⟨e1, l1⟩ := forceSe3_grows h o
      generalize forceSe3 h o = r1 at e1 l1
      obtain ⟨e2, f2⟩ := partsNew_spec r1.1 r1.2.stamps?.isSome (segments (r1.2.se3?.getD []) bounds)
        (segments ((r1.2.stamps?.map r1.1.rats).getD []) bounds)
      exact ⟨e1.trans e2, fun p hp => (f2 p hp).mono e1.mono, l1.trans (Local.ofExt e2 fun a ha => Or.inl ha)⟩
  | false =>
      obtain ⟨e, f⟩ := fresh_cons (cs := []) (deepcopy_spec h o) ⟨Ext.refl _, fun _ hp => nomatch hp⟩
      exact ⟨e, f, Local.ofExt e fun a ha => Or.inl ha⟩

theorem Sep.symm {a b : Obj} (s : Sep a b) : Sep b a := fun x hb ha => s x ha hb

theorem deepcopyList_spec (h : Heap) (os : List Obj) :
    Ext h (deepcopyList h os).1 ∧ ∀ c ∈ (deepcopyList h os).2, FreshSince h c := by
  induction os generalizing h with
  | nil => exact ⟨Ext.refl h, fun _ hc => nomatch hc⟩
  | cons o r ih => rw [deepcopyList]; exact fresh_cons (deepcopy_spec h o) (ih _)

/-- `rd`: the reads of the reference through its lazy properties (`readsRef` of `alignWith`); `ops`: the
methods the estimate then runs on itself (`opsEst`) -/
theorem alignWith_spec (h : Heap) (est ref : Obj) (rd ops : List HOp) (we : Wf h est) (wr : Wf h ref) (s : Sep est ref) :
    Sep (alignWith h est ref rd ops).2.1 (alignWith h est ref rd ops).2.2 ∧
    Wf (alignWith h est ref rd ops).1 (alignWith h est ref rd ops).2.2 ∧
    view (alignWith h est ref rd ops).1 (alignWith h est ref rd ops).2.2
      = view (hrun h ref rd).1 (hrun h ref rd).2 := by
  have l1 := hrun_local h ref rd
  obtain ⟨_, s1, w1⟩ := l1.noninterference we s.symm
  have l2 := hrun_local (hrun h ref rd).1 est ops
  obtain ⟨v2, s2, w2⟩ := l2.noninterference (l1.wf wr) s1.symm
  exact ⟨s2, w2, v2⟩

end Evo.Heap
