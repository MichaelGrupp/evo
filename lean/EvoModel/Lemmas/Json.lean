/-
Decoding undoes the encoding of one character of a string of Unicode scalar values
(`unescape_escChar`); the round trip of whole strings is `C06.json_string_roundtrip`.
-/
import EvoModel.Model.Json
import Mathlib.Data.Char
namespace Evo.Json

theorem hexVal_hexDigit : ∀ k, k < 16 → hexVal (hexDigit k) = some k := by decide

theorem unhex4_hex4 (n : Nat) (h : n < 65536) :
    unhex4 (hexDigit (n / 4096 % 16)) (hexDigit (n / 256 % 16)) (hexDigit (n / 16 % 16)) (hexDigit (n % 16))
      = some n := by
  unfold unhex4
  rw [hexVal_hexDigit _ (Nat.mod_lt _ (by decide)), hexVal_hexDigit _ (Nat.mod_lt _ (by decide)),
    hexVal_hexDigit _ (Nat.mod_lt _ (by decide)), hexVal_hexDigit _ (Nat.mod_lt _ (by decide))]
  simp only [Option.some.injEq]
  omega

theorem unescape_simple (e ch : Char) (rest : Str) (he : e ≠ 'u') (hs : simpleEsc e = some ch) :
    unescape ('\\' :: e :: rest) = consOpt ch (unescape rest) := by
  rw [unescape.eq_def]; simp [he, hs]

theorem unescape_plain (c : Char) (rest : Str) (h1 : c ≠ '\\') (h2 : c ≠ '"') (h3 : ¬ c.toNat < 32) :
    unescape (c :: rest) = consOpt c (unescape rest) := by
  rw [unescape.eq_def]; simp [h1, h2, h3]

theorem unescape_u_bmp (a b c d : Char) (rest : Str) (u : Nat) (hu : unhex4 a b c d = some u)
    (h1 : ¬ (55296 ≤ u ∧ u ≤ 56319)) (h2 : ¬ (56320 ≤ u ∧ u ≤ 57343)) :
    unescape ('\\' :: 'u' :: a :: b :: c :: d :: rest) = consOpt (Char.ofNat u) (unescape rest) := by
  rw [unescape.eq_def]; simp [hu, h1, h2]

theorem unescape_u_pair (a b c d e f g h : Char) (rest : Str) (u u2 : Nat)
    (hu : unhex4 a b c d = some u) (hu2 : unhex4 e f g h = some u2)
    (h1 : 55296 ≤ u ∧ u ≤ 56319) (h2 : 56320 ≤ u2 ∧ u2 ≤ 57343) :
    unescape ('\\' :: 'u' :: a :: b :: c :: d :: '\\' :: 'u' :: e :: f :: g :: h :: rest)
      = consOpt (Char.ofNat (65536 + ((u - 55296) * 1024 + (u2 - 56320)))) (unescape rest) := by
  rw [unescape.eq_def]; simp [hu, hu2, h1, h2]

/-- the two-character escapes `\x` of `escChar`, as (character, letter `x`): the first seven
branches of `escChar` and, read backwards, the table `simpleEsc` of Model/Json.lean (which also
accepts `\/`) -/
def shortEscapes : List (Char × Char) :=
  [('"', '"'), ('\\', '\\'), ('\n', 'n'), ('\r', 'r'), ('\t', 't'), ('\x08', 'b'), ('\x0c', 'f')]

theorem escChar_short : ∀ p ∈ shortEscapes,
    escChar p.1 = ['\\', p.2] ∧ p.2 ≠ 'u' ∧ simpleEsc p.2 = some p.1 := by decide

theorem unescape_escChar (c : Char) (rest : Str) :
    unescape (escChar c ++ rest) = consOpt c (unescape rest) := by
  by_cases hc : c ∈ shortEscapes.map (·.1)
  · obtain ⟨p, hp, rfl⟩ := List.mem_map.mp hc
    obtain ⟨h1, h2, h3⟩ := escChar_short p hp
    rw [h1]; exact unescape_simple _ _ _ h2 h3
  simp only [shortEscapes, List.map_cons, List.map_nil, List.mem_cons, List.not_mem_nil, or_false,
    not_or] at hc
  obtain ⟨h1, h2, h3, h4, h5, h6, h7⟩ := hc
  simp only [escChar, if_neg h1, if_neg h2, if_neg h3, if_neg h4, if_neg h5, if_neg h6, if_neg h7]
  -- a scalar value is no surrogate
  have hr : c.toNat < 55296 ∨ (57343 < c.toNat ∧ c.toNat < 1114112) := c.valid
  split_ifs with hp hb
  · exact unescape_plain c rest h2 h1 (by omega)
  · have := unescape_u_bmp _ _ _ _ rest c.toNat (unhex4_hex4 c.toNat hb) (by omega) (by omega)
    rwa [Char.ofNat_toNat] at this
  · have := unescape_u_pair _ _ _ _ _ _ _ _ rest _ _
      (unhex4_hex4 (55296 + (c.toNat - 65536) / 1024) (by omega))
      (unhex4_hex4 (56320 + (c.toNat - 65536) % 1024) (by omega)) (by omega) (by omega)
    rwa [show 65536 + ((55296 + (c.toNat - 65536) / 1024 - 55296) * 1024
        + (56320 + (c.toNat - 65536) % 1024 - 56320)) = c.toNat by omega, Char.ofNat_toNat] at this

end Evo.Json
