/-
Algebraic helper lemmas, over a commutative ring, a field or an ordered field, mostly for C09 and C14:
Rodrigues matrices (through their written-out form `rodrigues_eq`; `Lemmas/UmeyamaApprox.lean` (C03) writes
the matrix of a quaternion as one and has that it is a rotation from `rodrigues_isRot`), the rotations about
a coordinate axis and the certified directions of `Model/Project.lean`, `relSo3` and the invariance of the
angle core under conjugation, facts about the tolerance tests of `Model/Lie.lean`.  The real-valued layer
(the rotation angle, `exp` and `log`) is `Lemmas/LieReal.lean`.
-/
import EvoModel.Lemmas.SO3
import EvoModel.Model.Project
import EvoModel.Lemmas.Argmin
namespace Evo

section ring
variable {K : Type} [CommRing K]

/-- `(hat v)² = v vᵀ − ‖v‖²·I`, so the matrix is `(1 − b‖v‖²)·I + a·hat v + b·v vᵀ` -/
theorem rodrigues_eq (v : V3 K) (a b : K) : rodrigues v a b =
    ⟨1 - b * (v.y * v.y + v.z * v.z), b * (v.x * v.y) - a * v.z, b * (v.x * v.z) + a * v.y,
     b * (v.x * v.y) + a * v.z, 1 - b * (v.x * v.x + v.z * v.z), b * (v.y * v.z) - a * v.x,
     b * (v.x * v.z) - a * v.y, b * (v.y * v.z) + a * v.x, 1 - b * (v.x * v.x + v.y * v.y)⟩ := by
  simp only [rodrigues, M3.add, M3.smul, M3.mul, M3.hat, M3.one, M3.mk.injEq]; and_intros <;> ring

theorem rodrigues_zero (a b : K) : rodrigues (V3.zero : V3 K) a b = M3.one := by
  simp only [rodrigues_eq, V3.zero, M3.one, M3.mk.injEq]; and_intros <;> ring

/-- `RᵀR − I = −(a² + b²‖v‖² − 2b)·(hat v)²` for `R = I + a·hat v + b·(hat v)²` -/
theorem rodrigues_transpose_mul_self (v : V3 K) (a b : K) (h : a * a + b * b * v.normSq = (1 + 1) * b) :
    (rodrigues v a b).transpose.mul (rodrigues v a b) = M3.one := by
  simp only [V3.normSq, V3.dot] at h
  simp only [rodrigues_eq, M3.mul, M3.one, M3.transpose, M3.mk.injEq]
  and_intros
  · linear_combination (v.y * v.y + v.z * v.z) * h
  · linear_combination (-(v.x * v.y)) * h
  · linear_combination (-(v.x * v.z)) * h
  · linear_combination (-(v.x * v.y)) * h
  · linear_combination (v.x * v.x + v.z * v.z) * h
  · linear_combination (-(v.y * v.z)) * h
  · linear_combination (-(v.x * v.z)) * h
  · linear_combination (-(v.y * v.z)) * h
  · linear_combination (v.x * v.x + v.y * v.y) * h

theorem rodrigues_det (v : V3 K) (a b : K) (h : a * a + b * b * v.normSq = (1 + 1) * b) :
    (rodrigues v a b).det = 1 := by
  simp only [V3.normSq, V3.dot] at h
  simp only [rodrigues_eq, M3.det]
  linear_combination (v.x * v.x + v.y * v.y + v.z * v.z) * h

theorem rodrigues_trace (v : V3 K) (a b : K) :
    (rodrigues v a b).trace = 3 - (1 + 1) * b * v.normSq := by
  simp only [rodrigues_eq, M3.trace, V3.normSq, V3.dot]; ring

theorem rodrigues_mulVec_self (v : V3 K) (a b : K) : (rodrigues v a b).mulVec v = v := by
  ext <;> simp only [rodrigues_eq, M3.mulVec] <;> ring

theorem rodrigues_smul (k a b : K) (w : V3 K) :
    rodrigues (V3.smul k w) a b = rodrigues w (a * k) (b * k ^ 2) := by
  simp only [rodrigues_eq, V3.smul, M3.mk.injEq]; and_intros <;> ring

theorem Project.rotAbout_eq_rodrigues (pl : Project.Plane) (c s : K) :
    Project.rotAbout pl c s = rodrigues pl.axis s (1 - c) := by
  cases pl <;> simp only [Project.rotAbout, Project.Plane.axis, rodrigues_eq, M3.mk.injEq] <;> and_intros <;> ring

theorem Project.Plane.axis_normSq (pl : Project.Plane) : (pl.axis : V3 K).normSq = 1 := by
  cases pl <;> simp only [Project.Plane.axis, V3.normSq, V3.dot] <;> ring

end ring

section field
variable {K : Type} [Field K]

/-- for `a = sin θ/θ`, `b = (1 − cos θ)/θ²`, `θ = ‖v‖` the hypothesis is `sin² + cos² = 1` -/
theorem rodrigues_isRot (v : V3 K) (a b : K) (h : a * a + b * b * v.normSq = (1 + 1) * b) :
    IsRot (rodrigues v a b) := ⟨rodrigues_transpose_mul_self v a b h, rodrigues_det v a b h⟩

theorem Pose.rel_rot (a b : Pose K) : (a.rel b).rot = relSo3 a.rot b.rot := rfl

theorem relSo3_mul_left {t : M3 K} (h : IsOrtho t) (a b : M3 K) :
    relSo3 (t.mul a) (t.mul b) = relSo3 a b := by
  unfold relSo3
  rw [M3.transpose_mul, M3.mul_assoc', ← M3.mul_assoc' t.transpose, h.transpose_mul, M3.one_mul']

theorem relSo3_mul_right (t a b : M3 K) :
    relSo3 (a.mul t) (b.mul t) = (t.transpose.mul (relSo3 a b)).mul t := by
  unfold relSo3
  rw [M3.transpose_mul, M3.mul_assoc', M3.mul_assoc', M3.mul_assoc']

theorem relSo3_swap (a b : M3 K) : relSo3 b a = (relSo3 a b).transpose := by
  unfold relSo3; rw [M3.transpose_mul, M3.transpose_transpose]

theorem relSo3_self {a : M3 K} (h : IsOrtho a) : relSo3 a a = M3.one := h

theorem relSo3_isRot {a b : M3 K} (ha : IsRot a) (hb : IsRot b) : IsRot (relSo3 a b) :=
  ha.transpose.mul hb

theorem M3.trace_conj {t : M3 K} (h : IsOrtho t) (m : M3 K) :
    ((t.transpose.mul m).mul t).trace = m.trace := by
  rw [M3.trace_mul_comm, ← M3.mul_assoc', h.mul_transpose, M3.one_mul']

theorem M3.sub_transpose_conj (t m : M3 K) :
    ((t.transpose.mul m).mul t).sub ((t.transpose.mul m).mul t).transpose
      = (t.transpose.mul (m.sub m.transpose)).mul t := by
  rw [M3.transpose_mul, M3.transpose_mul, M3.transpose_transpose, M3.mul_sub, M3.sub_mul, M3.mul_assoc' _ m.transpose]

theorem M3.axis2_normSq_eq_frob (m : M3 K) : (1 + 1) * m.axis2.normSq = (m.sub m.transpose).frobSq := by
  simp only [M3.axis2, V3.normSq, V3.dot, M3.frobSq, M3.sub, M3.transpose]; ring

end field

section ordered
variable {K : Type} [Field K] [LinearOrder K] [IsStrictOrderedRing K]

theorem rodrigues_axisVec (v : V3 K) (a b : K) : (rodrigues v a b).axisVec = V3.smul a v := by
  ext <;> simp only [rodrigues_eq, M3.axisVec, V3.smul] <;> ring

/-- `= (cos θ, sin² θ)` for `a = sin θ/θ`, `b = (1 − cos θ)/θ²`, `θ = ‖v‖` -/
theorem rodrigues_angleCore (v : V3 K) (a b : K) :
    (rodrigues v a b).angleCore = (1 - b * v.normSq, a * a * v.normSq) := by
  refine Prod.ext ?_ ?_
  · rw [M3.angleCore_fst, rodrigues_trace]; ring
  · rw [M3.angleCore_snd, rodrigues_axisVec, V3.normSq_smul]; ring

/-- A `β` as in the hypothesis exists unless `c = −1` (angle π).  With `w = r.axisVec` the skew part of
`R = I + hat w + β(w wᵀ − ‖w‖²I)` holds by definition of `w`; the symmetric part times `2(1 + tr R)` is
`IsRot.rodrigues2` plus `IsRot.axis2_normSq`. -/
theorem IsRot.eq_rodrigues {r : M3 K} (h : IsRot r) {β : K} (hβ : β * (1 + r.angleCore.1) = 1) :
    Evo.rodrigues r.axisVec 1 β = r := by
  have hn := h.axis2_normSq
  have e := h.rodrigues2
  rw [M3.angleCore_fst] at hβ
  simp only [M3.axis2, V3.normSq, V3.dot, M3.trace] at hn hβ
  simp only [M3.ext'_iff, M3.smul, M3.add, M3.transpose, M3.one, M3.outer, M3.axis2, M3.trace] at e
  obtain ⟨e00, e01, e02, -, e11, e12, -, -, e22⟩ := e
  ext <;> simp only [rodrigues_eq, M3.axisVec]
  · linear_combination (-β / 4) * e00 - (β / 4) * hn + (r.a00 - 1) * hβ
  · linear_combination (-β / 4) * e01 + ((r.a01 + r.a10) / 2) * hβ
  · linear_combination (-β / 4) * e02 + ((r.a02 + r.a20) / 2) * hβ
  · linear_combination (-β / 4) * e01 + ((r.a01 + r.a10) / 2) * hβ
  · linear_combination (-β / 4) * e11 - (β / 4) * hn + (r.a11 - 1) * hβ
  · linear_combination (-β / 4) * e12 + ((r.a12 + r.a21) / 2) * hβ
  · linear_combination (-β / 4) * e02 + ((r.a02 + r.a20) / 2) * hβ
  · linear_combination (-β / 4) * e12 + ((r.a12 + r.a21) / 2) * hβ
  · linear_combination (-β / 4) * e22 - (β / 4) * hn + (r.a22 - 1) * hβ

/-- the trace is a class function, and so is `‖M − Mᵀ‖_F`, because `TᵀMT − (TᵀMT)ᵀ = Tᵀ(M − Mᵀ)T` -/
theorem M3.angleCore_conj {t : M3 K} (ht : IsOrtho t) (m : M3 K) :
    ((t.transpose.mul m).mul t).angleCore = m.angleCore := by
  refine Prod.ext ?_ ?_
  · rw [M3.angleCore_fst, M3.angleCore_fst, M3.trace_conj ht]
  · have key : ((t.transpose.mul m).mul t).axis2.normSq = m.axis2.normSq := by
      apply mul_left_cancel₀ (by norm_num : (1 + 1 : K) ≠ 0)
      rw [M3.axis2_normSq_eq_frob, M3.axis2_normSq_eq_frob, M3.sub_transpose_conj, frobSq_mul_right_of_ortho ht,
        frobSq_mul_left_of_ortho ht.transpose]
    rw [M3.angleCore_snd, M3.angleCore_snd, M3.axisVec_eq, M3.axisVec_eq, V3.normSq_smul, V3.normSq_smul, key]

theorem eq_of_mul_self_eq {x x' : K} (h : x * x = x' * x') (hs : 0 ≤ x * x') : x = x' := by
  rcases mul_self_eq_mul_self_iff.mp h with e | e
  · exact e
  · -- `x = −x'`, `0 ≤ −x'²`
    have h0 : x' = 0 := mul_self_eq_zero.mp (le_antisymm (by rw [e] at hs; linarith) (mul_self_nonneg x'))
    rw [e, h0, neg_zero]

theorem Project.Dir.isUnit_div (d : Project.Dir K) {x n : K} (hx : x * x = d.xsq)
    (hs : if d.xneg then x ≤ 0 else 0 ≤ x) (hn : 0 < n) (hnn : n * n = d.xsq + d.y * d.y) :
    d.IsUnit (x / n) (d.y / n) := by
  have hn0 := hn.ne'
  refine ⟨?_, ?_, ?_, ?_, fun h0 => absurd (hnn.trans h0) (mul_self_ne_zero.mpr hn0)⟩
  · field_simp; linear_combination hx - hnn
  · rw [← hnn]; field_simp; linear_combination hx
  · split_ifs at hs ⊢
    · exact div_nonpos_of_nonpos_of_nonneg hs hn.le
    · exact div_nonneg hs hn.le
  · rw [div_mul_eq_mul_div]; exact div_nonneg (mul_self_nonneg _) hn.le

end ordered

namespace Lie

theorem isClose_self_one : isClose 1 1 = true := by decide +kernel
theorem isClose_self_zero : isClose 0 0 = true := by decide +kernel
theorem allClose_one : allClose M3.one M3.one = true := by decide +kernel

theorem isClose_iff (a b : ℚ) : isClose a b = true ↔ |a - b| ≤ atol + rtol * |b| := by
  unfold isClose
  rw [decide_eq_true_iff, absR_eq_abs, absR_eq_abs]

/-- `atol + rtol·|1| = 1.1e-5` -/
theorem isClose_one_iff (a : ℚ) : isClose a 1 = true ↔ |a - 1| ≤ 11 / 1000000 := by
  rw [isClose_iff, abs_one]; norm_num [atol, rtol]

theorem isClose_zero_iff (a : ℚ) : isClose a 0 = true ↔ |a| ≤ 1 / 1000000 := by
  rw [isClose_iff, abs_zero, sub_zero]; norm_num [atol, rtol]

end Lie

end Evo
