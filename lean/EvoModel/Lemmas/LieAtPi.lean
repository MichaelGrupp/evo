/-
The SO(3) logarithm at rotation angle exactly π (the gap left by `logR` of `Lemmas/LieReal.lean`,
which returns `0` whenever `sin θ = 0`).

For a proper rotation `R` with `c = (tr R − 1)/2 = −1`:
* `vee((R − Rᵀ)/2) = 0`, i.e. `R` is symmetric                       (`IsRot.symm_of_pi`)
* `adj(R + I) = (1 + tr R)·I = 0`: all 2×2 minors of `R + I` vanish, so
  `P = (R + I)/2` is symmetric of trace 1 and rank one                (`IsRot.piP_rank1`)
* such a `P` is `n nᵀ` for a unit vector `n`: each column `j` satisfies `P_j P_jᵀ = P_jj·P`, the largest
  diagonal entry is `≥ 1/3`, and `n = P_j/√P_jj` (`piAxisOf`)       (`IsRank1Proj.piAxisOf_outer`, `_normSq`);
  that `P` is idempotent with non-negative diagonal is read off `n nᵀ`
* `exp(π n) = 2 n nᵀ − I` for every unit `n`                          (`rodrigues_half_turn`, `expR_pi_axis`)
so `exp(π·piAxis R) = 2P − I = R`.  `logRFull` is `logR` completed by `π·piAxis R` at angle π.
The main theorems (`exp_log_real`, `log_exp_real`, `log_exp_real_at_pi`) are in `Props/C09.lean`.
-/
import EvoModel.Lemmas.LieReal
namespace Evo

section real
open Real

/-- for a rotation by π about the unit axis `n` this is `n nᵀ` -/
noncomputable def M3.piP (r : M3 ℝ) : M3 ℝ := M3.smul (1 / 2) (r.add M3.one)

theorem M3.two_piP_sub_one (r : M3 ℝ) : (M3.smul 2 r.piP).add (M3.smul (-1) M3.one) = r := by
  ext <;> simp only [M3.piP, M3.smul, M3.add, M3.one] <;> ring

theorem M3.piP_two_outer_sub_one (n : V3 ℝ) :
    ((M3.smul 2 (M3.outer n n)).add (M3.smul (-1) M3.one)).piP = M3.outer n n := by
  ext <;> simp only [M3.piP, M3.smul, M3.add, M3.one, M3.outer] <;> ring

/-- a symmetric matrix of trace 1 all of whose 2×2 minors vanish: a rank-one orthogonal projector
`n nᵀ`, `‖n‖ = 1` (what `(R + I)/2` is for a rotation by π) -/
structure IsRank1Proj (p : M3 ℝ) : Prop where
  s01 : p.a10 = p.a01
  s02 : p.a20 = p.a02
  s12 : p.a21 = p.a12
  tr : p.a00 + p.a11 + p.a22 = 1
  m00 : p.a11 * p.a22 = p.a12 * p.a12
  m11 : p.a00 * p.a22 = p.a02 * p.a02
  m22 : p.a00 * p.a11 = p.a01 * p.a01
  m01 : p.a01 * p.a22 = p.a02 * p.a12
  m02 : p.a01 * p.a12 = p.a02 * p.a11
  m12 : p.a00 * p.a12 = p.a01 * p.a02

theorem M3.trace_of_pi {r : M3 ℝ} (hc : r.angleCore.1 = -1) : r.trace = -1 := by
  rw [M3.trace_of_core hc]; norm_num

theorem IsRot.symm_of_pi {r : M3 ℝ} (h : IsRot r) (hc : r.angleCore.1 = -1) :
    r.a10 = r.a01 ∧ r.a20 = r.a02 ∧ r.a21 = r.a12 := by
  have e : r.axis2 = V3.zero :=
    V3.eq_zero_of_normSq (by rw [h.axis2_normSq, M3.trace_of_pi hc]; ring)
  exact ⟨sub_eq_zero.mp (congrArg V3.z e), (sub_eq_zero.mp (congrArg V3.y e)).symm,
    sub_eq_zero.mp (congrArg V3.x e)⟩

theorem IsRot.transpose_of_pi {r : M3 ℝ} (h : IsRot r) (hc : r.angleCore.1 = -1) :
    r.transpose = r := by
  obtain ⟨s01, s02, s12⟩ := h.symm_of_pi hc
  ext <;> simp only [M3.transpose, s01, s02, s12]

/-- the minors vanish because `adj(R + I) = (1 + tr R)·I = 0`, from `cof R = R`, symmetry and `tr R = −1` -/
theorem IsRot.piP_rank1 {r : M3 ℝ} (h : IsRot r) (hc : r.angleCore.1 = -1) : IsRank1Proj r.piP := by
  obtain ⟨⟨k00, _, _⟩, ⟨k10, k11, _⟩, ⟨k20, k21, k22⟩⟩ := h.cof
  obtain ⟨s01, s02, s12⟩ := h.symm_of_pi hc
  have ht := M3.trace_of_pi hc
  simp only [M3.trace] at ht
  constructor <;> simp only [M3.piP, M3.smul, M3.add, M3.one]
  · linear_combination (1 / 2) * s01
  · linear_combination (1 / 2) * s02
  · linear_combination (1 / 2) * s12
  · linear_combination (1 / 2) * ht
  · linear_combination (1 / 4) * (k00 + ht) + (1 / 4) * r.a12 * s12
  · linear_combination (1 / 4) * (k11 + ht) + (1 / 4) * r.a02 * s02
  · linear_combination (1 / 4) * (k22 + ht) + (1 / 4) * r.a01 * s01
  · linear_combination (-1 / 4) * (k10 + s01) + (1 / 4) * r.a02 * s12
  · linear_combination (1 / 4) * (k20 + s02)
  · linear_combination (-1 / 4) * (k21 + s12) + (1 / 4) * r.a02 * s01

noncomputable def M3.pickDiag (p : M3 ℝ) : ℝ :=
  if p.a11 ≤ p.a00 ∧ p.a22 ≤ p.a00 then p.a00 else if p.a22 ≤ p.a11 then p.a11 else p.a22

noncomputable def piAxisOf (p : M3 ℝ) : V3 ℝ :=
  if p.a11 ≤ p.a00 ∧ p.a22 ≤ p.a00 then V3.smul (1 / √p.a00) p.col0
  else if p.a22 ≤ p.a11 then V3.smul (1 / √p.a11) p.col1
  else V3.smul (1 / √p.a22) p.col2

/-- a unit axis of a rotation by π: from `P = (R + I)/2 = n nᵀ` take the column `j` with the
largest diagonal entry `P_jj = n_j²` (ties: smallest `j`) and divide it by `√P_jj = |n_j|` -/
noncomputable def piAxis (r : M3 ℝ) : V3 ℝ := piAxisOf r.piP

/-- the SO(3) logarithm on the whole group: `logR` for angles `< π`, `π·piAxis R` at angle π -/
noncomputable def logRFull (r : M3 ℝ) : V3 ℝ :=
  if r.angleCore.1 = -1 then V3.smul π (piAxis r) else logR r

theorem M3.pickDiag_max (p : M3 ℝ) : p.a00 ≤ p.pickDiag ∧ p.a11 ≤ p.pickDiag ∧ p.a22 ≤ p.pickDiag := by
  unfold M3.pickDiag
  split_ifs with h0 h1
  · exact ⟨le_refl _, h0.1, h0.2⟩
  · refine ⟨?_, le_refl _, h1⟩
    by_contra hlt
    exact h0 ⟨(not_le.mp hlt).le, h1.trans (not_le.mp hlt).le⟩
  · have h21 : p.a11 < p.a22 := not_le.mp h1
    refine ⟨?_, h21.le, le_refl _⟩
    by_contra hlt
    exact h0 ⟨h21.le.trans (not_le.mp hlt).le, (not_le.mp hlt).le⟩

theorem one_div_sqrt_mul_self {d : ℝ} (hd : 0 < d) : 1 / √d * (1 / √d) * d = 1 := by
  rw [one_div_mul_one_div, Real.mul_self_sqrt hd.le]; exact one_div_mul_cancel hd.ne'

theorem M3.outer_div_sqrt {p : M3 ℝ} {c : V3 ℝ} {d : ℝ} (hd : 0 < d) (h : M3.outer c c = M3.smul d p) :
    M3.outer (V3.smul (1 / √d) c) (V3.smul (1 / √d) c) = p := by
  rw [M3.outer_smul, h, M3.smul_smul_cancel (one_div_sqrt_mul_self hd)]

namespace IsRank1Proj
variable {p : M3 ℝ}

/-- the entry `(i, k)` of `P_j P_jᵀ − P_jj·P` is the minor on rows `i, j` and columns `j, k`, up to symmetry -/
theorem outer_col0 (hp : IsRank1Proj p) : M3.outer p.col0 p.col0 = M3.smul p.a00 p := by
  obtain ⟨s01, s02, s12, -, -, m11, m22, -, -, m12⟩ := hp
  ext <;> simp only [M3.outer, M3.smul, M3.col0]
  · linear_combination p.a00 * s01
  · linear_combination p.a00 * s02
  · ring
  · linear_combination p.a10 * s01 + p.a01 * s01 - m22
  · linear_combination p.a20 * s01 + p.a01 * s02 - m12
  · ring
  · linear_combination p.a20 * s01 + p.a01 * s02 - m12 - p.a00 * s12
  · linear_combination p.a20 * s02 + p.a02 * s02 - m11

theorem outer_col1 (hp : IsRank1Proj p) : M3.outer p.col1 p.col1 = M3.smul p.a11 p := by
  obtain ⟨s01, s02, s12, -, m00, -, m22, -, m02, -⟩ := hp
  ext <;> simp only [M3.outer, M3.smul, M3.col1]
  · linear_combination (-1) * m22
  · ring
  · linear_combination p.a01 * s12 + m02
  · linear_combination (-p.a11) * s01
  · linear_combination p.a11 * s12
  · linear_combination p.a01 * s12 + m02 - p.a11 * s02
  · ring
  · linear_combination p.a21 * s12 + p.a12 * s12 - m00

theorem outer_col2 (hp : IsRank1Proj p) : M3.outer p.col2 p.col2 = M3.smul p.a22 p := by
  obtain ⟨s01, s02, s12, -, m00, m11, -, m01, -, -⟩ := hp
  ext <;> simp only [M3.outer, M3.smul, M3.col2]
  · linear_combination (-1) * m11
  · linear_combination (-1) * m01
  · ring
  · linear_combination (-1) * m01 - p.a22 * s01
  · linear_combination (-1) * m00
  · ring
  · linear_combination (-p.a22) * s02
  · linear_combination (-p.a22) * s12

theorem third_le_pickDiag (hp : IsRank1Proj p) : 1 / 3 ≤ p.pickDiag := by
  obtain ⟨h0, h1, h2⟩ := p.pickDiag_max
  have := hp.tr
  linarith

theorem piAxisOf_outer (hp : IsRank1Proj p) : M3.outer (piAxisOf p) (piAxisOf p) = p := by
  have hpos : 0 < p.pickDiag := by linarith [hp.third_le_pickDiag]
  unfold M3.pickDiag at hpos
  unfold piAxisOf
  split_ifs at hpos ⊢
  · exact M3.outer_div_sqrt hpos hp.outer_col0
  · exact M3.outer_div_sqrt hpos hp.outer_col1
  · exact M3.outer_div_sqrt hpos hp.outer_col2

theorem piAxisOf_normSq (hp : IsRank1Proj p) : (piAxisOf p).normSq = 1 := by
  rw [V3.normSq, ← M3.trace_outer, hp.piAxisOf_outer]; exact hp.tr

theorem mul_self (hp : IsRank1Proj p) : p.mul p = p := by
  have e := M3.outer_mul_outer (piAxisOf p) (piAxisOf p) (piAxisOf p) (piAxisOf p)
  rwa [show (piAxisOf p).dot (piAxisOf p) = 1 from hp.piAxisOf_normSq, M3.one_smul', hp.piAxisOf_outer] at e

theorem diag_nonneg (hp : IsRank1Proj p) : 0 ≤ p.a00 ∧ 0 ≤ p.a11 ∧ 0 ≤ p.a22 := by
  rw [← hp.piAxisOf_outer]
  exact ⟨mul_self_nonneg _, mul_self_nonneg _, mul_self_nonneg _⟩

end IsRank1Proj

theorem piAxis_outer {r : M3 ℝ} (h : IsRot r) (hc : r.angleCore.1 = -1) :
    M3.outer (piAxis r) (piAxis r) = r.piP := (h.piP_rank1 hc).piAxisOf_outer

theorem piAxis_normSq {r : M3 ℝ} (h : IsRot r) (hc : r.angleCore.1 = -1) :
    (piAxis r).normSq = 1 := (h.piP_rank1 hc).piAxisOf_normSq

theorem IsRot.piP_mul_self {r : M3 ℝ} (h : IsRot r) (hc : r.angleCore.1 = -1) :
    r.piP.mul r.piP = r.piP := (h.piP_rank1 hc).mul_self

theorem IsRot.third_le_pickDiag {r : M3 ℝ} (h : IsRot r) (hc : r.angleCore.1 = -1) :
    1 / 3 ≤ r.piP.pickDiag := (h.piP_rank1 hc).third_le_pickDiag

/-- the coefficients are `(sin π, 1 − cos π) = (0, 2)` -/
theorem rodrigues_half_turn (n : V3 ℝ) (hn : n.normSq = 1) :
    rodrigues n 0 2 = (M3.smul 2 (M3.outer n n)).add (M3.smul (-1) M3.one) := by
  simp only [V3.normSq, V3.dot] at hn
  ext <;> simp only [rodrigues_eq, M3.add, M3.smul, M3.one, M3.outer]
  · linear_combination (-2) * hn
  · ring
  · ring
  · ring
  · linear_combination (-2) * hn
  · ring
  · ring
  · ring
  · linear_combination (-2) * hn

theorem expR_pi_axis (n : V3 ℝ) (hn : n.normSq = 1) :
    expR (V3.smul π n) = (M3.smul 2 (M3.outer n n)).add (M3.smul (-1) M3.one) := by
  have hπ : π ≠ 0 := Real.pi_pos.ne'
  have ha : sincR π = 0 := by unfold sincR; rw [if_neg hπ, Real.sin_pi, zero_div]
  have hb : coscR π * π ^ 2 = 2 := by rw [mul_comm, sq_mul_coscR, Real.cos_pi]; norm_num
  rw [expR_of_normSq Real.pi_pos.le (by rw [V3.normSq_smul, hn, mul_one]), rodrigues_smul, ha, zero_mul, hb]
  exact rodrigues_half_turn n hn

/-- `exp(π n) = 2 n nᵀ − I = 2P − I = R` is an algebraic identity: no hypothesis on `R` beyond `n nᵀ = P` -/
theorem expR_of_outer_eq_piP (r : M3 ℝ) (n : V3 ℝ) (hn : n.normSq = 1) (hP : M3.outer n n = r.piP) :
    expR (V3.smul π n) = r := by
  rw [expR_pi_axis n hn, hP, M3.two_piP_sub_one]

theorem eq_or_neg_of_outer_eq {n u : V3 ℝ} (hu : u.normSq = 1) (h : M3.outer n n = M3.outer u u) :
    n = u ∨ n = V3.smul (-1) u := by
  have e : V3.smul (n.dot u) n = u := by
    have : (M3.outer n n).mulVec u = (M3.outer u u).mulVec u := by rw [h]
    rwa [M3.outer_mulVec, M3.outer_mulVec, show u.dot u = 1 from hu, V3.one_smul'] at this
  have hd : n.dot u * n.dot u = 1 := by
    have : (V3.smul (n.dot u) n).dot u = u.dot u := by rw [e]
    rwa [V3.smul_dot, show u.dot u = 1 from hu] at this
  rcases mul_self_eq_one_iff.mp hd with h1 | h1
  · left; rw [← e, h1, V3.one_smul']
  · right; rw [← e, h1, V3.smul_smul_cancel (by norm_num)]

end real
end Evo
