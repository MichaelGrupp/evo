/-
The real-valued layer of C09 over `Lemmas/Lie.lean` and `Lemmas/Atan2.lean`: the rotation angle
`angleR = atan2(√s², c)` of the angle core, and `exp`/`log` as Rodrigues' formula with `θ = ‖v‖`
(`expR`, `logR`; the logarithm at angle exactly π is completed in `Lemmas/LieAtPi.lean`).
-/
import EvoModel.Lemmas.Lie
import EvoModel.Lemmas.Atan2
namespace Evo

section real
open Real

/-- evo's rotation angle between `a` and `b` (`so3_log_angle(relative_so3(a, b))` in exact
arithmetic): `atan2(√s², c)` of the angle core -/
noncomputable def angleR (a b : M3 ℝ) : ℝ :=
  atan2 (√((relSo3 a b).angleCore.2)) (relSo3 a b).angleCore.1

theorem angleR_congr {a b a' b' : M3 ℝ} (h : (relSo3 a b).angleCore = (relSo3 a' b').angleCore) :
    angleR a b = angleR a' b' := by
  unfold angleR; rw [h]

/-- the coefficients of Rodrigues' formula, continued to `θ = 0` -/
noncomputable def sincR (θ : ℝ) : ℝ := if θ = 0 then 1 else sin θ / θ
noncomputable def coscR (θ : ℝ) : ℝ := if θ = 0 then 1 / 2 else (1 - cos θ) / θ ^ 2

/-- `so3_exp` over ℝ: Rodrigues' formula with `θ = ‖v‖` -/
noncomputable def expR (v : V3 ℝ) : M3 ℝ := rodrigues v (sincR (√v.normSq)) (coscR (√v.normSq))

/-- `so3_log` over ℝ for rotation angles `< π`: `θ/sin θ · vee((R − Rᵀ)/2)` with
`θ = atan2(√s², c)`; `0` when `sin θ = 0` (correct for angle 0; angle π is outside the domain) -/
noncomputable def logR (r : M3 ℝ) : V3 ℝ :=
  if sin (atan2 (√r.angleCore.2) r.angleCore.1) = 0 then V3.zero
  else V3.smul (atan2 (√r.angleCore.2) r.angleCore.1 / sin (atan2 (√r.angleCore.2) r.angleCore.1)) r.axisVec

theorem mul_sincR (θ : ℝ) : θ * sincR θ = sin θ := by
  unfold sincR
  split_ifs with h
  · rw [h, Real.sin_zero, zero_mul]
  · field_simp

theorem sq_mul_coscR (θ : ℝ) : θ ^ 2 * coscR θ = 1 - cos θ := by
  unfold coscR
  split_ifs with h
  · rw [h, Real.cos_zero]; norm_num
  · field_simp

theorem sinc_cosc_rel (θ : ℝ) :
    sincR θ * sincR θ + coscR θ * coscR θ * (θ * θ) = (1 + 1) * coscR θ := by
  unfold sincR coscR
  split_ifs with h
  · subst h; norm_num
  · field_simp
    nlinarith [Real.sin_sq_add_cos_sq θ]

theorem expR_of_normSq {v : V3 ℝ} {θ : ℝ} (hθ : 0 ≤ θ) (h : v.normSq = θ ^ 2) :
    expR v = rodrigues v (sincR θ) (coscR θ) := by
  unfold expR; rw [h, Real.sqrt_sq hθ]

theorem expR_angleCore (v : V3 ℝ) : (expR v).angleCore = (cos (√v.normSq), sin (√v.normSq) ^ 2) := by
  have hn : v.normSq = √v.normSq ^ 2 := (Real.sq_sqrt (V3.normSq_nonneg v)).symm
  unfold expR
  rw [rodrigues_angleCore]
  generalize √v.normSq = θ at hn ⊢
  rw [hn]
  refine Prod.ext ?_ ?_
  · linear_combination (-1) * sq_mul_coscR θ
  · linear_combination (θ * sincR θ + sin θ) * mul_sincR θ

theorem expR_angleCore_fst (v : V3 ℝ) : (expR v).angleCore.1 = cos (√v.normSq) :=
  congrArg Prod.fst (expR_angleCore v)

theorem expR_axisVec (v : V3 ℝ) : (expR v).axisVec = V3.smul (sincR (√v.normSq)) v :=
  rodrigues_axisVec _ _ _

end real
end Evo
