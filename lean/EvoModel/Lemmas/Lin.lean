/-
Algebra of `Model/Lin.lean`.  The component level is entered in the section over a commutative ring
(identities of `V3`/`M3`, by `lin_unfold` and `ring`, and the cofactor matrix) and twice over a field:
for Cramer's rule (`eq_of_mulVec_eq`) and for `frobSq_sub_one_of_ortho`, which adds up three of the
component equations `IsOrtho.eqs`.  The monoid of poses, the group laws of orthonormal matrices and rigid
poses, the invariance lemmas used by the metric properties (C01, C02, C04, C08, C09, C14) and the Sim(3)
inverse are derived from the ring identities by rewriting.
-/
import EvoModel.Model.Lin
import Mathlib.Tactic.Ring
import Mathlib.Tactic.LinearCombination
import Mathlib.Tactic.FieldSimp
namespace Evo

@[ext] theorem V3.ext' {K : Type} {a b : V3 K} (hx : a.x = b.x) (hy : a.y = b.y) (hz : a.z = b.z) : a = b := by
  cases a; cases b; congr

@[ext] theorem M3.ext' {K : Type} {a b : M3 K} (h00 : a.a00 = b.a00) (h01 : a.a01 = b.a01) (h02 : a.a02 = b.a02)
    (h10 : a.a10 = b.a10) (h11 : a.a11 = b.a11) (h12 : a.a12 = b.a12)
    (h20 : a.a20 = b.a20) (h21 : a.a21 = b.a21) (h22 : a.a22 = b.a22) : a = b := by
  cases a; cases b; congr

@[ext] theorem Pose.ext' {K : Type} {a b : Pose K} (hr : a.rot = b.rot) (ht : a.t = b.t) : a = b := by
  cases a; cases b; congr

/-- Unfolds every component-level definition of `Model/Lin.lean`, in the goal and the hypotheses; an
equation between vectors, matrices or poses becomes the conjunction of its component equations.  The
identities of the next section are proved by `lin_unfold; and_intros <;> ring` (`ext <;> lin_unfold <;> ring`
where one side is a variable); later proofs use those identities and unfold only for scalar equations. -/
macro "lin_unfold" : tactic =>
  `(tactic| simp only [M3.mul, M3.transpose, M3.one, M3.zero, M3.mulVec, M3.add, M3.sub, M3.smul, M3.trace,
      M3.det, M3.frobSq, M3.hat, M3.vee, M3.col0, M3.col1, M3.col2, V3.zero, V3.add, V3.sub, V3.neg, V3.smul,
      V3.dot, V3.normSq, V3.cross, Pose.one, Pose.mul, Pose.inv, Pose.rel, Pose.sim3, Pose.pos, Pose.sim3Inv,
      M3.angleCore, V3.mk.injEq, M3.mk.injEq, Pose.mk.injEq] at *)

section ring
variable {K : Type} [CommRing K]

theorem V3.add_assoc' (a b c : V3 K) : (a.add b).add c = a.add (b.add c) := by lin_unfold; and_intros <;> ring
theorem V3.add_comm' (a b : V3 K) : a.add b = b.add a := by lin_unfold; and_intros <;> ring
theorem V3.add_zero' (a : V3 K) : a.add V3.zero = a := by ext <;> lin_unfold <;> ring
theorem V3.zero_add' (a : V3 K) : V3.zero.add a = a := by ext <;> lin_unfold <;> ring
theorem V3.add_neg_cancel' (a : V3 K) : a.add a.neg = V3.zero := by lin_unfold; and_intros <;> ring
theorem V3.neg_add_cancel' (a : V3 K) : a.neg.add a = V3.zero := by lin_unfold; and_intros <;> ring
theorem V3.neg_neg' (a : V3 K) : a.neg.neg = a := by ext <;> lin_unfold <;> ring
theorem V3.neg_add' (a b : V3 K) : (a.add b).neg = a.neg.add b.neg := by lin_unfold; and_intros <;> ring
theorem V3.sub_add_cancel' (a b : V3 K) : (a.sub b).add b = a := by ext <;> lin_unfold <;> ring
theorem V3.eq_of_sub_eq_zero {a b : V3 K} (h : a.sub b = V3.zero) : a = b :=
  V3.ext' (sub_eq_zero.mp (congrArg V3.x h)) (sub_eq_zero.mp (congrArg V3.y h)) (sub_eq_zero.mp (congrArg V3.z h))
theorem V3.smul_smul (k l : K) (a : V3 K) : V3.smul k (V3.smul l a) = V3.smul (k * l) a := by
  lin_unfold; and_intros <;> ring
theorem V3.one_smul' (a : V3 K) : V3.smul 1 a = a := by ext <;> lin_unfold <;> ring
theorem V3.smul_smul_cancel {k l : K} (h : k * l = 1) (a : V3 K) : V3.smul k (V3.smul l a) = a := by
  rw [V3.smul_smul, h, V3.one_smul']
theorem V3.smul_dot (k : K) (a b : V3 K) : (V3.smul k a).dot b = k * a.dot b := by lin_unfold; ring
theorem V3.normSq_smul (k : K) (a : V3 K) : (V3.smul k a).normSq = k ^ 2 * a.normSq := by lin_unfold; ring
theorem V3.normSq_zero : (V3.zero : V3 K).normSq = 0 := by lin_unfold; ring
theorem V3.normSq_neg (v : V3 K) : v.neg.normSq = v.normSq := by lin_unfold; ring
theorem V3.normSq_sub_comm (a b : V3 K) : (a.sub b).normSq = (b.sub a).normSq := by lin_unfold; ring
theorem V3.normSq_sub_self (a : V3 K) : (a.sub a).normSq = 0 := by lin_unfold; ring

theorem M3.mulVec_add (a : M3 K) (v w : V3 K) : a.mulVec (v.add w) = (a.mulVec v).add (a.mulVec w) := by
  lin_unfold; and_intros <;> ring
theorem M3.mulVec_neg (a : M3 K) (v : V3 K) : a.mulVec v.neg = (a.mulVec v).neg := by lin_unfold; and_intros <;> ring
theorem M3.mulVec_sub (a : M3 K) (v w : V3 K) : a.mulVec (v.sub w) = (a.mulVec v).sub (a.mulVec w) := by
  lin_unfold; and_intros <;> ring
theorem M3.mulVec_smul (a : M3 K) (k : K) (v : V3 K) : a.mulVec (V3.smul k v) = V3.smul k (a.mulVec v) := by
  lin_unfold; and_intros <;> ring
theorem M3.mulVec_zero (a : M3 K) : a.mulVec V3.zero = V3.zero := by lin_unfold; and_intros <;> ring
theorem M3.smul_mulVec (k : K) (a : M3 K) (v : V3 K) : (M3.smul k a).mulVec v = V3.smul k (a.mulVec v) := by
  lin_unfold; and_intros <;> ring
theorem M3.mulVec_mulVec (a b : M3 K) (v : V3 K) : a.mulVec (b.mulVec v) = (a.mul b).mulVec v := by
  lin_unfold; and_intros <;> ring
theorem M3.one_mulVec (v : V3 K) : (M3.one : M3 K).mulVec v = v := by ext <;> lin_unfold <;> ring
theorem M3.dot_mulVec_transpose (a : M3 K) (v w : V3 K) : (a.mulVec v).dot w = v.dot (a.transpose.mulVec w) := by
  lin_unfold; ring

theorem M3.mul_assoc' (a b c : M3 K) : (a.mul b).mul c = a.mul (b.mul c) := by
  lin_unfold; and_intros <;> ring
theorem M3.one_mul' (a : M3 K) : M3.one.mul a = a := by ext <;> lin_unfold <;> ring
theorem M3.mul_one' (a : M3 K) : a.mul M3.one = a := by ext <;> lin_unfold <;> ring
omit [CommRing K] in
theorem M3.transpose_transpose (a : M3 K) : a.transpose.transpose = a := rfl
theorem M3.transpose_mul (a b : M3 K) : (a.mul b).transpose = b.transpose.mul a.transpose := by
  lin_unfold; and_intros <;> ring
theorem M3.transpose_one : (M3.one : M3 K).transpose = M3.one := rfl
theorem M3.transpose_smul (k : K) (a : M3 K) : (M3.smul k a).transpose = M3.smul k a.transpose := rfl
theorem M3.smul_mul (k : K) (a b : M3 K) : (M3.smul k a).mul b = M3.smul k (a.mul b) := by
  lin_unfold; and_intros <;> ring
theorem M3.mul_smul (k : K) (a b : M3 K) : a.mul (M3.smul k b) = M3.smul k (a.mul b) := by
  lin_unfold; and_intros <;> ring
theorem M3.smul_smul (k l : K) (a : M3 K) : M3.smul k (M3.smul l a) = M3.smul (k * l) a := by
  lin_unfold; and_intros <;> ring
theorem M3.one_smul' (a : M3 K) : M3.smul 1 a = a := by ext <;> lin_unfold <;> ring
theorem M3.smul_smul_cancel {k l : K} (h : k * l = 1) (a : M3 K) : M3.smul k (M3.smul l a) = a := by
  rw [M3.smul_smul, h, M3.one_smul']
theorem M3.smul_add (k : K) (a b : M3 K) : M3.smul k (a.add b) = (M3.smul k a).add (M3.smul k b) := by
  lin_unfold; and_intros <;> ring
theorem M3.mul_sub (a b c : M3 K) : a.mul (b.sub c) = (a.mul b).sub (a.mul c) := by lin_unfold; and_intros <;> ring
theorem M3.sub_mul (a b c : M3 K) : (a.sub b).mul c = (a.mul c).sub (b.mul c) := by lin_unfold; and_intros <;> ring
theorem M3.eq_of_sub_eq_zero {a b : M3 K} (h : a.sub b = M3.zero) : a = b :=
  M3.ext' (sub_eq_zero.mp (congrArg M3.a00 h)) (sub_eq_zero.mp (congrArg M3.a01 h))
    (sub_eq_zero.mp (congrArg M3.a02 h)) (sub_eq_zero.mp (congrArg M3.a10 h)) (sub_eq_zero.mp (congrArg M3.a11 h))
    (sub_eq_zero.mp (congrArg M3.a12 h)) (sub_eq_zero.mp (congrArg M3.a20 h)) (sub_eq_zero.mp (congrArg M3.a21 h))
    (sub_eq_zero.mp (congrArg M3.a22 h))

theorem M3.trace_mul_comm (a b : M3 K) : (a.mul b).trace = (b.mul a).trace := by lin_unfold; ring
theorem M3.det_transpose (a : M3 K) : a.transpose.det = a.det := by lin_unfold; ring
theorem M3.det_mul (a b : M3 K) : (a.mul b).det = a.det * b.det := by lin_unfold; ring
theorem M3.det_one : (M3.one : M3 K).det = 1 := by lin_unfold; ring
theorem M3.det_smul (k : K) (a : M3 K) : (M3.smul k a).det = k ^ 3 * a.det := by lin_unfold; ring
theorem M3.col0_mul (a n : M3 K) : (a.mul n).col0 = a.mulVec n.col0 := rfl
theorem M3.col1_mul (a n : M3 K) : (a.mul n).col1 = a.mulVec n.col1 := rfl
theorem M3.col2_mul (a n : M3 K) : (a.mul n).col2 = a.mulVec n.col2 := rfl
theorem M3.frobSq_eq_cols (n : M3 K) : n.frobSq = n.col0.normSq + n.col1.normSq + n.col2.normSq := by
  lin_unfold; ring
theorem M3.frobSq_transpose (a : M3 K) : a.transpose.frobSq = a.frobSq := by lin_unfold; ring
theorem M3.frobSq_sub_self (a : M3 K) : (a.sub a).frobSq = 0 := by lin_unfold; ring
theorem M3.frobSq_sub_one_transpose (r : M3 K) : (r.transpose.sub M3.one).frobSq = (r.sub M3.one).frobSq := by
  lin_unfold; ring

/-- Here for `M3.mul_eq_one_comm` (`RᵀR = 1 ⇒ RRᵀ = 1` without leaving the model's own matrix type) and for the
cofactor equations `cof R = R` of a proper rotation (`IsRot.cof`). -/
def M3.cof (a : M3 K) : M3 K :=
  ⟨a.a11 * a.a22 - a.a12 * a.a21, -(a.a10 * a.a22) + a.a12 * a.a20, a.a10 * a.a21 - a.a11 * a.a20,
   -(a.a01 * a.a22) + a.a02 * a.a21, a.a00 * a.a22 - a.a02 * a.a20, -(a.a00 * a.a21) + a.a01 * a.a20,
   a.a01 * a.a12 - a.a02 * a.a11, -(a.a00 * a.a12) + a.a02 * a.a10, a.a00 * a.a11 - a.a01 * a.a10⟩

theorem M3.mul_cof_transpose (a : M3 K) : a.mul a.cof.transpose = M3.smul a.det M3.one := by
  simp only [M3.cof, M3.mul, M3.transpose, M3.smul, M3.det, M3.one, M3.mk.injEq]; and_intros <;> ring

theorem M3.mul_eq_one_comm {a b : M3 K} (h : b.mul a = M3.one) : a.mul b = M3.one := by
  have hd : b.det * a.det = 1 := by rw [← M3.det_mul, h, M3.det_one]
  calc a.mul b = (a.mul (b.mul (M3.smul (b.det * a.det) M3.one))) := by
        rw [hd, M3.one_smul', M3.mul_one']
    _ = M3.smul b.det (a.mul ((b.mul a).mul a.cof.transpose)) := by
        rw [← M3.smul_smul, ← M3.mul_cof_transpose, M3.mul_smul, M3.mul_smul, M3.mul_assoc']
    _ = M3.one := by rw [h, M3.one_mul', M3.mul_cof_transpose, M3.smul_smul_cancel hd]

theorem Pose.mul_assoc' (a b c : Pose K) : (a.mul b).mul c = a.mul (b.mul c) := by
  simp only [Pose.mul, M3.mul_assoc', M3.mulVec_add, M3.mulVec_mulVec, V3.add_assoc']
theorem Pose.one_mul' (a : Pose K) : Pose.one.mul a = a := by
  simp only [Pose.mul, Pose.one, M3.one_mul', M3.one_mulVec, V3.add_zero']
theorem Pose.mul_one' (a : Pose K) : a.mul Pose.one = a := by
  simp only [Pose.mul, Pose.one, M3.mul_one', M3.mulVec_zero, V3.zero_add']

/-- Shared by `se3_inverse` (`A = Bᵀ`) and `sim3_inverse` (`A = s⁻¹ Rᵀ`, `B = s R`). -/
theorem Pose.mul_eq_one_left {A B : M3 K} (v : V3 K) (h : A.mul B = M3.one) :
    (⟨A, V3.neg (A.mulVec v)⟩ : Pose K).mul ⟨B, v⟩ = Pose.one := by
  simp only [Pose.mul, Pose.one, h, V3.add_neg_cancel']

theorem Pose.mul_eq_one_right {A B : M3 K} (v : V3 K) (h : B.mul A = M3.one) :
    (⟨B, v⟩ : Pose K).mul ⟨A, V3.neg (A.mulVec v)⟩ = Pose.one := by
  simp only [Pose.mul, Pose.one, M3.mulVec_neg, M3.mulVec_mulVec, h, M3.one_mulVec, V3.neg_add_cancel']

theorem M3.affine_sub (A : M3 K) (t a b : V3 K) :
    ((A.mulVec a).add t).sub ((A.mulVec b).add t) = A.mulVec (a.sub b) := by
  ext <;> lin_unfold <;> ring

theorem Pose.mul_t_sub (T a b : Pose K) :
    V3.sub (T.mul a).t (T.mul b).t = T.rot.mulVec (V3.sub a.t b.t) := M3.affine_sub T.rot T.t a.t b.t

theorem Pose.rel_t (a b : Pose K) : (a.rel b).t = a.rot.transpose.mulVec (V3.sub b.t a.t) := by
  ext <;> lin_unfold <;> ring

end ring

section field
variable {K : Type} [Field K]

theorem M3.trace_transpose (a : M3 K) : a.transpose.trace = a.trace := rfl

/-- Cramer's rule, row by row: the coefficients below are the cofactors of `[u v w]`. -/
theorem eq_of_mulVec_eq {A B : M3 K} {u v w : V3 K} (hu : A.mulVec u = B.mulVec u)
    (hv : A.mulVec v = B.mulVec v) (hw : A.mulVec w = B.mulVec w)
    (hdet : V3.dot (V3.cross u v) w ≠ 0) : A = B := by
  simp only [V3.dot, V3.cross] at hdet
  have row : ∀ a b c a' b' c' : K, a * u.x + b * u.y + c * u.z = a' * u.x + b' * u.y + c' * u.z →
      a * v.x + b * v.y + c * v.z = a' * v.x + b' * v.y + c' * v.z →
      a * w.x + b * w.y + c * w.z = a' * w.x + b' * w.y + c' * w.z → a = a' ∧ b = b' ∧ c = c' := by
    intro a b c a' b' c' h1 h2 h3
    refine ⟨?_, ?_, ?_⟩ <;> apply sub_eq_zero.mp <;> refine (mul_eq_zero.mp ?_).resolve_right hdet
    · linear_combination (v.y * w.z - v.z * w.y) * h1 + (w.y * u.z - w.z * u.y) * h2 + (u.y * v.z - u.z * v.y) * h3
    · linear_combination (v.z * w.x - v.x * w.z) * h1 + (w.z * u.x - w.x * u.z) * h2 + (u.z * v.x - u.x * v.z) * h3
    · linear_combination (v.x * w.y - v.y * w.x) * h1 + (w.x * u.y - w.y * u.x) * h2 + (u.x * v.y - u.y * v.x) * h3
  obtain ⟨a0, a1, a2⟩ := row _ _ _ _ _ _ (congrArg V3.x hu) (congrArg V3.x hv) (congrArg V3.x hw)
  obtain ⟨b0, b1, b2⟩ := row _ _ _ _ _ _ (congrArg V3.y hu) (congrArg V3.y hv) (congrArg V3.y hw)
  obtain ⟨c0, c1, c2⟩ := row _ _ _ _ _ _ (congrArg V3.z hu) (congrArg V3.z hv) (congrArg V3.z hw)
  ext <;> assumption

/-- what `is_so3` checks besides the determinant, here exact (with evo's tolerances: `isSo3Tol`) -/
def IsOrtho (r : M3 K) : Prop := r.transpose.mul r = M3.one
def IsRot (r : M3 K) : Prop := IsOrtho r ∧ r.det = 1
/-- rigid pose: orthonormal rotation block (`is_se3` also fixes the bottom row, which is structural here) -/
def IsRigid (p : Pose K) : Prop := IsOrtho p.rot

theorem IsOrtho.transpose_mul {r : M3 K} (h : IsOrtho r) : r.transpose.mul r = M3.one := h

theorem IsOrtho.mul_transpose {r : M3 K} (h : IsOrtho r) : r.mul r.transpose = M3.one :=
  M3.mul_eq_one_comm h

theorem IsOrtho.transpose {r : M3 K} (h : IsOrtho r) : IsOrtho r.transpose := by
  unfold IsOrtho; rw [M3.transpose_transpose]; exact h.mul_transpose

theorem IsOrtho.mul {a b : M3 K} (ha : IsOrtho a) (hb : IsOrtho b) : IsOrtho (a.mul b) := by
  unfold IsOrtho
  rw [M3.transpose_mul, M3.mul_assoc', ← M3.mul_assoc' a.transpose, ha.transpose_mul, M3.one_mul', hb.transpose_mul]

theorem IsOrtho.one : IsOrtho (M3.one : M3 K) := M3.one_mul' _

theorem IsRot.transpose {r : M3 K} (h : IsRot r) : IsRot r.transpose :=
  ⟨h.1.transpose, by rw [M3.det_transpose]; exact h.2⟩

theorem IsRot.mul {a b : M3 K} (ha : IsRot a) (hb : IsRot b) : IsRot (a.mul b) :=
  ⟨ha.1.mul hb.1, by rw [M3.det_mul, ha.2, hb.2, mul_one]⟩

theorem IsRot.one : IsRot (M3.one : M3 K) := ⟨IsOrtho.one, M3.det_one⟩

theorem IsRot.rel_rot {a b : Pose K} (ha : IsRot a.rot) (hb : IsRot b.rot) : IsRot (a.rel b).rot :=
  IsRot.mul ha.transpose hb

theorem IsOrtho.eqs {r : M3 K} (h : IsOrtho r) :
    r.a00 * r.a00 + r.a10 * r.a10 + r.a20 * r.a20 = 1 ∧
    r.a00 * r.a01 + r.a10 * r.a11 + r.a20 * r.a21 = 0 ∧
    r.a00 * r.a02 + r.a10 * r.a12 + r.a20 * r.a22 = 0 ∧
    r.a01 * r.a01 + r.a11 * r.a11 + r.a21 * r.a21 = 1 ∧
    r.a01 * r.a02 + r.a11 * r.a12 + r.a21 * r.a22 = 0 ∧
    r.a02 * r.a02 + r.a12 * r.a12 + r.a22 * r.a22 = 1 :=
  ⟨congrArg M3.a00 h, congrArg M3.a01 h, congrArg M3.a02 h, congrArg M3.a11 h, congrArg M3.a12 h,
    congrArg M3.a22 h⟩

theorem IsOrtho.row_eqs {r : M3 K} (h : IsOrtho r) :
    r.a00 * r.a00 + r.a01 * r.a01 + r.a02 * r.a02 = 1 ∧
    r.a00 * r.a10 + r.a01 * r.a11 + r.a02 * r.a12 = 0 ∧
    r.a00 * r.a20 + r.a01 * r.a21 + r.a02 * r.a22 = 0 ∧
    r.a10 * r.a10 + r.a11 * r.a11 + r.a12 * r.a12 = 1 ∧
    r.a10 * r.a20 + r.a11 * r.a21 + r.a12 * r.a22 = 0 ∧
    r.a20 * r.a20 + r.a21 * r.a21 + r.a22 * r.a22 = 1 :=
  h.transpose.eqs

theorem Pose.inv_mul_self {p : Pose K} (h : IsRigid p) : p.inv.mul p = Pose.one :=
  Pose.mul_eq_one_left p.t h

theorem Pose.mul_inv_self {p : Pose K} (h : IsRigid p) : p.mul p.inv = Pose.one :=
  Pose.mul_eq_one_right p.t h.mul_transpose

theorem IsRigid.mul {a b : Pose K} (ha : IsRigid a) (hb : IsRigid b) : IsRigid (a.mul b) := IsOrtho.mul ha hb

theorem IsRigid.inv {a : Pose K} (ha : IsRigid a) : IsRigid a.inv := IsOrtho.transpose ha

theorem IsRigid.one : IsRigid (Pose.one : Pose K) := IsOrtho.one

theorem IsRigid.rel {a b : Pose K} (ha : IsRigid a) (hb : IsRigid b) : IsRigid (a.rel b) :=
  IsRigid.mul ha.inv hb

theorem Pose.inv_mul_rev (a b : Pose K) (ha : IsRigid a) : (a.mul b).inv = b.inv.mul a.inv := by
  simp only [Pose.mul, Pose.inv, M3.transpose_mul, M3.mulVec_add, M3.mulVec_mulVec, M3.mulVec_neg, V3.neg_add',
    M3.mul_assoc', IsOrtho.transpose_mul ha, M3.mul_one', V3.add_comm' (V3.neg (M3.mulVec _ b.t))]

theorem Pose.inv_inv (a : Pose K) (h : IsRigid a) : a.inv.inv = a := by
  simp only [Pose.inv, M3.transpose_transpose, M3.mulVec_neg, V3.neg_neg', M3.mulVec_mulVec, h.mul_transpose,
    M3.one_mulVec]

theorem Pose.rel_left_invariant (T a b : Pose K) (hT : IsRigid T) :
    (T.mul a).rel (T.mul b) = a.rel b := by
  unfold Pose.rel
  rw [Pose.inv_mul_rev T a hT, Pose.mul_assoc', ← Pose.mul_assoc' T.inv, Pose.inv_mul_self hT, Pose.one_mul']

theorem Pose.rel_self {a : Pose K} (h : IsRigid a) : a.rel a = Pose.one := Pose.inv_mul_self h

theorem Pose.rel_swap (a b : Pose K) (ha : IsRigid a) : (a.rel b).inv = b.rel a := by
  unfold Pose.rel
  rw [Pose.inv_mul_rev _ _ ha.inv, Pose.inv_inv a ha]

theorem dot_mulVec_of_ortho {r : M3 K} (h : IsOrtho r) (v w : V3 K) :
    (r.mulVec v).dot (r.mulVec w) = v.dot w := by
  rw [M3.dot_mulVec_transpose, M3.mulVec_mulVec, h.transpose_mul, M3.one_mulVec]

theorem normSq_mulVec_of_ortho {r : M3 K} (h : IsOrtho r) (v : V3 K) :
    (r.mulVec v).normSq = v.normSq := dot_mulVec_of_ortho h v v

theorem normSq_sim_sub {r : M3 K} (h : IsOrtho r) (s : K) (t a b : V3 K) :
    ((((M3.smul s r).mulVec a).add t).sub (((M3.smul s r).mulVec b).add t)).normSq = s ^ 2 * (a.sub b).normSq := by
  rw [M3.affine_sub, M3.smul_mulVec, V3.normSq_smul, normSq_mulVec_of_ortho h]

theorem frobSq_mul_left_of_ortho {t : M3 K} (h : IsOrtho t) (n : M3 K) : (t.mul n).frobSq = n.frobSq := by
  rw [M3.frobSq_eq_cols, M3.frobSq_eq_cols n, M3.col0_mul, M3.col1_mul, M3.col2_mul,
    normSq_mulVec_of_ortho h, normSq_mulVec_of_ortho h, normSq_mulVec_of_ortho h]

theorem frobSq_mul_right_of_ortho {t : M3 K} (h : IsOrtho t) (n : M3 K) : (n.mul t).frobSq = n.frobSq := by
  rw [← M3.frobSq_transpose, M3.transpose_mul, frobSq_mul_left_of_ortho h.transpose, M3.frobSq_transpose]

theorem frobSq_sub_one_of_ortho {r : M3 K} (h : IsOrtho r) :
    (r.sub M3.one).frobSq = 6 - 2 * r.trace := by
  obtain ⟨h00, _, _, h11, _, h22⟩ := h.eqs
  lin_unfold
  linear_combination h00 + h11 + h22

theorem Pose.inv_t_normSq {E : Pose K} (h : IsRigid E) : E.inv.t.normSq = E.t.normSq := by
  simp only [Pose.inv]
  rw [V3.normSq_neg, normSq_mulVec_of_ortho h.transpose]

theorem Pose.dist_mul_left {T : Pose K} (hT : IsRigid T) (a b : Pose K) :
    (V3.sub (T.mul a).t (T.mul b).t).normSq = (V3.sub a.t b.t).normSq := by
  rw [Pose.mul_t_sub, normSq_mulVec_of_ortho hT]

theorem Pose.rel_t_normSq {a : Pose K} (ha : IsRigid a) (b : Pose K) :
    (a.rel b).t.normSq = (V3.sub a.t b.t).normSq := by
  rw [Pose.rel_t, normSq_mulVec_of_ortho ha.transpose, V3.normSq_sub_comm]

theorem Pose.sim3Inv_sim3 (r : M3 K) (t : V3 K) {s : K} (hs : s ≠ 0) :
    (Pose.sim3 r t s).sim3Inv s
      = Pose.sim3 r.transpose (V3.neg ((M3.smul (1 / s) r.transpose).mulVec t)) (1 / s) := by
  simp only [Pose.sim3Inv, Pose.sim3]
  rw [M3.smul_smul_cancel (one_div_mul_cancel hs), M3.smul_mulVec, M3.mulVec_smul]

theorem Pose.sim3Inv_mul_cancel {r : M3 K} (h : IsOrtho r) (t : V3 K) {s : K} (hs : s ≠ 0) :
    ((Pose.sim3 r t s).sim3Inv s).mul (Pose.sim3 r t s) = Pose.one ∧
    (Pose.sim3 r t s).mul ((Pose.sim3 r t s).sim3Inv s) = Pose.one := by
  rw [Pose.sim3Inv_sim3 r t hs]
  constructor
  · apply Pose.mul_eq_one_left
    rw [M3.smul_mul, M3.mul_smul, M3.smul_smul_cancel (one_div_mul_cancel hs), h.transpose_mul]
  · apply Pose.mul_eq_one_right
    rw [M3.smul_mul, M3.mul_smul, M3.smul_smul_cancel (mul_one_div_cancel hs), h.mul_transpose]

end field
end Evo
