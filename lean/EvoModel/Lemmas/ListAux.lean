/-
Facts about lists that several models need and the library does not state in this form: recursions over adjacent
pairs are `zipWith f l l.tail`, the members of `zip l l.tail`, sorting by a rational key, `getD` under a map that
fixes the default. Mathlib-free.
-/
namespace Evo

/-- every "adjacent pairs" recursion of the models (`segSq`, `relsOf`, `stepSq`, `adjDiffs`) is `zipWith f l l.tail` -/
theorem eq_zipWith_tail {α β} {g : List α → List β} {f : α → α → β}
    (h0 : g [] = []) (h1 : ∀ a, g [a] = []) (h2 : ∀ a b r, g (a :: b :: r) = f a b :: g (b :: r)) :
    ∀ l, g l = List.zipWith f l l.tail
  | [] => h0
  | [a] => h1 a
  | a :: b :: r => by rw [h2, eq_zipWith_tail h0 h1 h2 (b :: r)]; rfl

theorem length_zipWith_tail {α β} (f : α → α → β) (l : List α) : (List.zipWith f l l.tail).length = l.length - 1 := by
  rw [List.length_zipWith, List.length_tail]; omega

theorem mem_zip_tail {α} {l : List α} {p : α × α} :
    p ∈ l.zip l.tail ↔ ∃ k, ∃ h : k + 1 < l.length, p = (l[k], l[k + 1]) := by
  constructor
  · intro hp
    obtain ⟨k, hk, rfl⟩ := List.getElem_of_mem hp
    have hk' : k + 1 < l.length := by simp at hk; omega
    exact ⟨k, hk', by simp⟩
  · rintro ⟨k, hk, rfl⟩
    exact List.mem_iff_getElem.mpr ⟨k, by simp; omega, by simp⟩

theorem pairwise_mergeSort_key {α} (f : α → Rat) (l : List α) :
    (l.mergeSort fun a b => decide (f a ≤ f b)).Pairwise (fun a b => f a ≤ f b) :=
  (List.pairwise_mergeSort (le := fun a b => decide (f a ≤ f b))
    (fun a b c => by simp only [decide_eq_true_eq]; exact Rat.le_trans)
    (fun a b => by simp only [Bool.or_eq_true, decide_eq_true_eq]; exact Rat.le_total) l).imp
    (fun h => of_decide_eq_true h)

theorem getD_map_of_default {α β} (f : α → β) (l : List α) (i : Nat) (a : α) (b : β) (h : f a = b) :
    (l.map f).getD i b = f (l.getD i a) := by
  simp only [List.getD_eq_getElem?_getD, List.getElem?_map]
  cases l[i]? <;> simp [h]

end Evo
