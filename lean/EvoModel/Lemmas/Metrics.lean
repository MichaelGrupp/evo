/-
The error cores of `Model/Ape.lean` / `Model/Rpe.lean` over an arbitrary field (reduction of an inverted /
identity error pose, invariance under rigid motions), the list bookkeeping of `ape` / `rpe`, and the plans of
`evo_ape` / `evo_rpe` as one notion `IsPlan` (C01, C02).
-/
import EvoModel.Model.Rpe
import EvoModel.Lemmas.SO3
import EvoModel.Lemmas.Except
namespace Evo

section field
variable {K : Type} [Field K]

/-- a core whose reported value is zero: `√0`, `atan2(√0, 1)`, `|√a − √a|`, `|√a − √a|/√a·100` -/
def Core.IsZero : Core K → Prop
  | .sqrt r => r = 0
  | .angle c s2 _ => c = 1 ∧ s2 = 0
  | .sqrtDiff a b => a = b
  | .sqrtRatio a b => a = b

theorem reduceE_inv (rel : PoseRelation) {E : Pose K} (h : IsRigid E) :
    reduceE rel E.inv = reduceE rel E := by
  have ht := Pose.inv_t_normSq h
  have hr : E.inv.rot = E.rot.transpose := rfl
  cases rel <;> simp only [reduceE, hr, M3.frobSq_sub_one_transpose, M3.angleCore_transpose, ht]

theorem reduceE_one [CharZero K] (rel : PoseRelation) : (reduceE rel (Pose.one : Pose K)).IsZero := by
  have hr : (Pose.one : Pose K).rot = M3.one := rfl
  have ht : (Pose.one : Pose K).t = V3.zero := rfl
  cases rel <;> simp only [reduceE, hr, ht, M3.frobSq_sub_self, V3.normSq_zero, M3.angleCore_one, Core.IsZero,
    add_zero, and_self]

theorem refDistSq_mul_left {T : Pose K} (hT : IsRigid T) (a b : Pose K) :
    refDistSq (T.mul a) (T.mul b) = refDistSq a b := Pose.dist_mul_left hT a b

theorem apeCore_common_motion (rel : PoseRelation) {T : Pose K} (hT : IsRigid T) (ref est : Pose K) :
    apeCore rel (T.mul ref) (T.mul est) = apeCore rel ref est := by
  cases rel <;>
    simp only [apeCore, apeBase, Pose.rel_left_invariant T est ref hT, Pose.dist_mul_left hT]

theorem apeCore_swap (rel : PoseRelation) {ref est : Pose K} (hr : IsRigid ref) (he : IsRigid est) :
    apeCore rel est ref = apeCore rel ref est := by
  have hE : IsRigid (est.rel ref) := IsRigid.rel he hr
  have e : ref.rel est = (est.rel ref).inv := (Pose.rel_swap est ref he).symm
  cases rel <;>
    simp only [apeCore, apeBase, e, reduceE_inv _ hE, V3.normSq_sub_comm ref.t est.t]

theorem apeCore_self [CharZero K] (rel : PoseRelation) {p : Pose K} (hp : IsRigid p) :
    (apeCore rel p p).IsZero := by
  have h1 := reduceE_one (K := K)
  cases rel
  case trans => simp only [apeCore, V3.normSq_sub_self, Core.IsZero]
  case pointDist => simp only [apeCore, V3.normSq_sub_self, Core.IsZero]
  case ratio => simp only [apeCore, Core.IsZero]
  all_goals (simp only [apeCore, apeBase, Pose.rel_self hp]; exact h1 _)

theorem rpeCore_separate_motions (rel : PoseRelation) {Tq Tp : Pose K} (hq : IsRigid Tq) (hp : IsRigid Tp)
    (Qi Qj Pi Pj : Pose K) :
    rpeCore rel (Tq.mul Qi) (Tq.mul Qj) (Tp.mul Pi) (Tp.mul Pj) = rpeCore rel Qi Qj Pi Pj := by
  cases rel <;>
    simp only [rpeCore, rpeBase, Pose.rel_left_invariant Tq Qi Qj hq, Pose.rel_left_invariant Tp Pi Pj hp,
      refDistSq_mul_left hq, refDistSq_mul_left hp]

theorem rpeCore_same_relative_motion [CharZero K] (rel : PoseRelation) {Qi Qj Pi Pj : Pose K}
    (hQi : IsRigid Qi) (hQj : IsRigid Qj) (hPi : IsRigid Pi) (h : Qi.rel Qj = Pi.rel Pj) :
    (rpeCore rel Qi Qj Pi Pj).IsZero := by
  have hd : refDistSq Qi Qj = refDistSq Pi Pj := by
    unfold refDistSq
    rw [← Pose.rel_t_normSq hQi, ← Pose.rel_t_normSq hPi, h]
  have hrig : IsRigid (Qi.rel Qj) := IsRigid.rel hQi hQj
  have h1 := reduceE_one (K := K)
  cases rel
  case pointDist => simp only [rpeCore, Core.IsZero, hd]
  case ratio => simp only [rpeCore, Core.IsZero, hd]
  all_goals (simp only [rpeCore, rpeBase, ← h, Pose.rel_self hrig]; exact h1 _)

end field

theorem absR_zero : absR 0 = 0 := by decide +kernel

theorem isSo3Approx_of_isRot {r : M3 Rat} (h : IsRot r) : isSo3Approx r = true := by
  obtain ⟨ho, hd⟩ := h
  have hg : M3.mul (M3.transpose r) r = M3.one := ho
  have t1 : absR (0 : Rat) ≤ tolOne := by decide +kernel
  have t0 : absR (0 : Rat) ≤ tolZero := by decide +kernel
  simp only [isSo3Approx, hg, hd, M3.one, sub_self, t1, t0, decide_true, Bool.and_self]

theorem ape_ok_iff {rel : PoseRelation} {ref est : List (Pose Rat)} {vs : List (Core Rat)} :
    ape rel ref est = .ok vs ↔
      ref.length = est.length ∧ rel ≠ .ratio ∧
      ¬ (rel.isAngle = true ∧ (apeRots ref est).all isSo3Approx = false) ∧
      vs = List.zipWith (apeCore rel) ref est := by
  simp only [ape, guard_ok_iff, Except.ok.injEq, not_not, ne_eq, eq_comm (a := vs)]

theorem apeRots_all_of_isRot {ref est : List (Pose Rat)}
    (hr : ∀ p ∈ ref, IsRot p.rot) (he : ∀ p ∈ est, IsRot p.rot) :
    (apeRots ref est).all isSo3Approx = true := by
  rw [List.all_eq_true]
  intro m hm
  unfold apeRots at hm
  rw [List.mem_iff_getElem] at hm
  obtain ⟨k, hk, rfl⟩ := hm
  rw [List.length_zipWith] at hk
  rw [List.getElem_zipWith]
  apply isSo3Approx_of_isRot
  exact IsRot.rel_rot (he _ (List.getElem_mem _)) (hr _ (List.getElem_mem _))

theorem pairCore_of_lt (rel : PoseRelation) (ref est : List (Pose Rat)) (p : Nat × Nat)
    (h1 : p.1 < ref.length) (h2 : p.2 < ref.length) (h3 : p.1 < est.length) (h4 : p.2 < est.length) :
    pairCore rel ref est p = some (rpeCore rel ref[p.1] ref[p.2] est[p.1] est[p.2]) := by
  simp only [pairCore, pairPoses, List.getElem?_eq_getElem h1, List.getElem?_eq_getElem h2,
    List.getElem?_eq_getElem h3, List.getElem?_eq_getElem h4, Option.map_some]

/-- for the `ref[i]!` of `rpe_values_eq_map` and of C02's statements; the default is never reached there
(every index is in range) -/
instance : Inhabited (Pose Rat) := ⟨Pose.one⟩

theorem keptPairs_sublist (rel : PoseRelation) (ref : List (Pose Rat)) (pairs : List (Nat × Nat)) :
    (keptPairs rel ref pairs).Sublist pairs := by
  unfold keptPairs
  split
  · exact List.filter_sublist
  · exact List.Sublist.refl _

theorem rpe_values_eq_map (rel : PoseRelation) {pairs : List (Nat × Nat)} {ref est : List (Pose Rat)}
    (hl : ref.length = est.length) (hidx : ∀ p ∈ pairs, p.1 < ref.length ∧ p.2 < ref.length) :
    (keptPairs rel ref pairs).filterMap (pairCore rel ref est)
      = (keptPairs rel ref pairs).map (fun p => rpeCore rel ref[p.1]! ref[p.2]! est[p.1]! est[p.2]!) := by
  rw [← List.filterMap_eq_map]
  apply List.filterMap_congr
  intro p hp
  have hp' := hidx p ((keptPairs_sublist rel ref pairs).subset hp)
  have h3 : p.1 < est.length := hl ▸ hp'.1
  have h4 : p.2 < est.length := hl ▸ hp'.2
  rw [pairCore_of_lt rel ref est p hp'.1 hp'.2 h3 h4]
  simp only [Function.comp, getElem!_pos ref p.1 hp'.1, getElem!_pos ref p.2 hp'.2,
    getElem!_pos est p.1 h3, getElem!_pos est p.2 h4]

theorem rpe_ok_iff {rel : PoseRelation} {pairs : List (Nat × Nat)} {ref est : List (Pose Rat)} {r : RpeResult} :
    rpe rel pairs ref est = .ok r ↔
      ref.length = est.length ∧ (∀ p ∈ pairs, p.1 < ref.length ∧ p.2 < ref.length) ∧
      ¬ (rel.isAngle = true ∧ (rpeRots ref est pairs).all isSo3Approx = false) ∧
      r = ⟨(keptPairs rel ref pairs).filterMap (pairCore rel ref est), (keptPairs rel ref pairs).map Prod.snd⟩ := by
  simp only [rpe, guard_ok_iff, Except.ok.injEq, not_not, ne_eq, eq_comm (a := r), List.any_eq_true,
    Bool.or_eq_true, decide_eq_true_eq, not_exists, not_and, not_or, Nat.not_le]

/-! ### plans

`apePlan` and `rpePlan` are the same pre-metric part (`prePlan`) followed by a tail of their own; `IsPlan` says
that much, and everything about order and about the pre-metric steps is proved for it once.  The order is kept
as a sublist fact: the ranks of a plan are a sublist of `0, …, 9`. -/

variable {o : CommonOpts} {s : Step}

theorem prePlan_ok_iff {pre : List Step} :
    prePlan o = .ok pre ↔ ¬ (o.motionFilter.isSome = true ∧ o.hasStamps = false) ∧
      pre = downsamplePart o ++ motionPart o ++ syncPart o ++ alignPart o
            ++ optStep o.alignOrigin .alignOrigin ++ projectPart o := by
  simp only [prePlan, Bool.and_eq_true, Bool.not_eq_true']
  split <;> simp [*, eq_comm (a := pre)]

theorem mem_optStep {c : Bool} {t : Step} : s ∈ optStep c t ↔ c = true ∧ s = t := by
  unfold optStep; split <;> simp [*]

theorem mem_downsamplePart : s ∈ downsamplePart o ↔ ∃ n, o.downsample = some n ∧ n ≠ 0 ∧ s = .downsample n := by
  unfold downsamplePart; split <;> simp [mem_optStep, *]

theorem mem_motionPart : s ∈ motionPart o ↔ ∃ d a, o.motionFilter = some (d, a) ∧ s = .motionFilter d a := by
  unfold motionPart; split <;> simp [*]

theorem mem_syncPart : s ∈ syncPart o ↔ o.hasStamps = true ∧
    ((o.tStart.isSome = true ∨ o.tEnd.isSome = true) ∧ s = .cropRef o.tStart o.tEnd ∨
      s = .associate o.tMaxDiff o.tOffset) := by
  unfold syncPart; split <;> simp [mem_optStep, *]

theorem mem_alignPart :
    s ∈ alignPart o ↔ ∃ k, alignKind o.align o.correctScale = some k ∧ s = .align k o.nToAlign := by
  unfold alignPart; cases alignKind o.align o.correctScale <;> simp

theorem mem_projectPart : s ∈ projectPart o ↔ ∃ p, o.plane = some p ∧ s = .project p := by
  unfold projectPart; cases o.plane <;> simp

theorem mem_unitPart : s ∈ unitPart o ↔ ∃ u, o.changeUnit = some u ∧ s = .changeUnit u := by
  unfold unitPart; cases o.changeUnit <;> simp

theorem ranks_optStep (c : Bool) (t : Step) : ((optStep c t).map Step.rank).Sublist [t.rank] := by
  unfold optStep; split <;> simp

theorem ranks_downsamplePart (o : CommonOpts) : ((downsamplePart o).map Step.rank).Sublist [0] := by
  unfold downsamplePart; split
  · exact ranks_optStep ..
  · simp

theorem ranks_motionPart (o : CommonOpts) : ((motionPart o).map Step.rank).Sublist [1] := by
  unfold motionPart; split <;> simp [Step.rank]

theorem ranks_syncPart (o : CommonOpts) : ((syncPart o).map Step.rank).Sublist [2, 3] := by
  unfold syncPart; split
  · rw [List.map_append]; exact (ranks_optStep ..).append (.refl _)
  · simp

theorem ranks_alignPart (o : CommonOpts) : ((alignPart o).map Step.rank).Sublist [4] := by
  unfold alignPart; split <;> simp [Step.rank]

theorem ranks_projectPart (o : CommonOpts) : ((projectPart o).map Step.rank).Sublist [6] := by
  unfold projectPart; split <;> simp [Step.rank]

theorem ranks_unitPart (o : CommonOpts) : ((unitPart o).map Step.rank).Sublist [8] := by
  unfold unitPart; split <;> simp [Step.rank]

theorem apePlan_ok_iff {steps : List Step} :
    apePlan o = .ok steps ↔ ∃ pre, prePlan o = .ok pre ∧ steps = pre ++ ([.metricApe o.rel] ++ unitPart o) := by
  unfold apePlan; split <;> simp [*, eq_comm]

theorem rpePlan_ok_iff {o : RpeOpts} {steps : List Step} :
    rpePlan o = .ok steps ↔ ∃ pre, prePlan o.common = .ok pre ∧
      steps = pre ++ ([.metricRpe o.common.rel o.delta o.deltaUnit o.deltaTol o.allPairs o.pairsFromReference]
              ++ unitPart o.common ++ [.reduceToFirstAndPairEnds]) := by
  unfold rpePlan; split <;> simp [*, eq_comm]

theorem prePlan_ranks {pre : List Step} (h : prePlan o = .ok pre) :
    (pre.map Step.rank).Sublist [0, 1, 2, 3, 4, 5, 6] := by
  obtain ⟨_, rfl⟩ := prePlan_ok_iff.mp h
  simp only [List.map_append]
  exact (((((ranks_downsamplePart o).append (ranks_motionPart o)).append (ranks_syncPart o)).append
    (ranks_alignPart o)).append (ranks_optStep ..)).append (ranks_projectPart o)

/-- the tail holds at most a metric, a unit change and (`evo_rpe`) the reduction to the pair ends, in this order -/
def IsPlan (o : CommonOpts) (steps : List Step) : Prop :=
  ∃ pre tail, prePlan o = .ok pre ∧ steps = pre ++ tail ∧ (tail.map Step.rank).Sublist [7, 8, 9]

theorem apePlan_isPlan {steps : List Step} (h : apePlan o = .ok steps) : IsPlan o steps := by
  obtain ⟨pre, hp, rfl⟩ := apePlan_ok_iff.mp h
  exact ⟨pre, _, hp, rfl,
    (List.Sublist.refl [7]).append ((ranks_unitPart o).trans (by decide : [8].Sublist [8, 9]))⟩

theorem rpePlan_isPlan {o : RpeOpts} {steps : List Step} (h : rpePlan o = .ok steps) : IsPlan o.common steps := by
  obtain ⟨pre, hp, rfl⟩ := rpePlan_ok_iff.mp h
  refine ⟨pre, _, hp, rfl, ?_⟩
  simp only [List.map_append]
  exact ((List.Sublist.refl [7]).append (ranks_unitPart o.common)).append (.refl [9])

namespace IsPlan
variable {steps : List Step} (h : IsPlan o steps)
include h

theorem ranks : (steps.map Step.rank).Sublist (List.range 10) := by
  obtain ⟨pre, tail, hp, rfl, ht⟩ := h
  rw [List.map_append]
  exact (prePlan_ranks hp).append ht

theorem order : (steps.map Step.rank).Pairwise (· < ·) := List.pairwise_lt_range.sublist h.ranks

theorem mem_iff (hs : s.rank < 7) : s ∈ steps ↔ s ∈ downsamplePart o ∨ s ∈ motionPart o ∨ s ∈ syncPart o ∨
    s ∈ alignPart o ∨ s ∈ optStep o.alignOrigin .alignOrigin ∨ s ∈ projectPart o := by
  obtain ⟨pre, tail, hp, rfl, ht⟩ := h
  obtain ⟨_, rfl⟩ := prePlan_ok_iff.mp hp
  have : s ∉ tail := fun hm => by
    have := ht.subset (List.mem_map_of_mem hm)
    simp only [List.mem_cons, List.not_mem_nil, or_false] at this
    omega
  simp only [List.mem_append, this, or_false, or_assoc]

theorem align (k : AlignKind) (n : Int) :
    Step.align k n ∈ steps ↔ alignKind o.align o.correctScale = some k ∧ n = o.nToAlign := by
  rw [h.mem_iff (by simp [Step.rank])]
  simp [mem_downsamplePart, mem_motionPart, mem_syncPart, mem_alignPart, mem_optStep, mem_projectPart]

theorem crop (s e : Option Rat) : Step.cropRef s e ∈ steps ↔
    o.hasStamps = true ∧ (o.tStart.isSome = true ∨ o.tEnd.isSome = true) ∧ s = o.tStart ∧ e = o.tEnd := by
  rw [h.mem_iff (by simp [Step.rank])]
  simp [mem_downsamplePart, mem_motionPart, mem_syncPart, mem_alignPart, mem_optStep, mem_projectPart]

theorem associate (m f : Rat) :
    Step.associate m f ∈ steps ↔ o.hasStamps = true ∧ m = o.tMaxDiff ∧ f = o.tOffset := by
  rw [h.mem_iff (by simp [Step.rank])]
  simp [mem_downsamplePart, mem_motionPart, mem_syncPart, mem_alignPart, mem_optStep, mem_projectPart]

theorem rank_lt {l₁ l₂ : List Step} {a b : Step} (e : steps = l₁ ++ a :: l₂) (hb : b ∈ l₂) :
    a.rank < b.rank := by
  have hs := h.order
  rw [e, List.map_append, List.map_cons, List.pairwise_append] at hs
  exact (List.pairwise_cons.mp hs.2.1).1 _ (List.mem_map_of_mem hb)

theorem eq_of_rank_eq {a b : Step} (ha : a ∈ steps) (hb : b ∈ steps) (e : a.rank = b.rank) : a = b :=
  List.inj_on_of_nodup_map (h.order.imp Nat.ne_of_lt) ha hb e

theorem onlyScale (n : Int) :
    Step.align .scaleOnly n ∈ steps ↔ (o.correctScale = true ∧ o.align = false) ∧ n = o.nToAlign := by
  rw [h.align]
  cases o.align <;> cases o.correctScale <;> simp [alignKind]

theorem crop_before_associate {l₁ l₂ : List Step} {m f : Rat} (e : steps = l₁ ++ Step.associate m f :: l₂) :
    (∀ s t, Step.cropRef s t ∉ l₂) ∧ (∀ n, Step.downsample n ∉ l₂) ∧ (∀ d a, Step.motionFilter d a ∉ l₂) ∧
      m = o.tMaxDiff ∧ f = o.tOffset :=
  ⟨fun _ _ hm => absurd (h.rank_lt e hm) (by simp [Step.rank]),
   fun _ hm => absurd (h.rank_lt e hm) (by simp [Step.rank]),
   fun _ _ hm => absurd (h.rank_lt e hm) (by simp [Step.rank]),
   ((h.associate m f).mp (by simp [e])).2⟩

theorem project_after_align {l₁ l₂ : List Step} {p : Plane} (e : steps = l₁ ++ Step.project p :: l₂) :
    (∀ k n, Step.align k n ∉ l₂) ∧ Step.alignOrigin ∉ l₂ ∧ (∀ m f, Step.associate m f ∉ l₂) :=
  ⟨fun _ _ hm => absurd (h.rank_lt e hm) (by simp [Step.rank]),
   fun hm => absurd (h.rank_lt e hm) (by simp [Step.rank]),
   fun _ _ hm => absurd (h.rank_lt e hm) (by simp [Step.rank])⟩

end IsPlan
end Evo
