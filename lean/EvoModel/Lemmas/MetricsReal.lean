/-
The real number reported for an error core (`Core.value`): the single final `sqrt` / `atan2`
that the executable model leaves to its reader, with range facts, and the cast lemma
ℚ-core ↦ ℝ-core (an instance of: the cores commute with `map` along any homomorphism of fields).
`atan2(y, x)` is `Complex.arg (x + i y)` (`Lemmas/Atan2.lean`).
-/
import EvoModel.Lemmas.Metrics
import EvoModel.Lemmas.Atan2
namespace Evo

def V3.map {K L : Type} (f : K → L) (v : V3 K) : V3 L := ⟨f v.x, f v.y, f v.z⟩
def M3.map {K L : Type} (f : K → L) (m : M3 K) : M3 L :=
  ⟨f m.a00, f m.a01, f m.a02, f m.a10, f m.a11, f m.a12, f m.a20, f m.a21, f m.a22⟩
def Pose.map {K L : Type} (f : K → L) (p : Pose K) : Pose L := ⟨M3.map f p.rot, V3.map f p.t⟩

section hom
variable {K L : Type} [Field K] [Field L] (f : K →+* L)

/- `map_sub`, `map_neg`, `map_div₀` restated with the operations `Field` provides: `simp` then matches them
syntactically (the general lemmas cost an instance unification at every subterm) -/
private theorem hsub (a b : K) : f (a - b) = f a - f b := f.map_sub a b
private theorem hneg (a : K) : f (-a) = -f a := f.map_neg a
private theorem hdiv (a b : K) : f (a / b) = f a / f b := map_div₀ f a b

theorem V3.map_sub (a b : V3 K) : (V3.sub a b).map f = V3.sub (a.map f) (b.map f) := by
  simp only [V3.map, V3.sub, hsub]

theorem V3.normSq_map (v : V3 K) : (v.map f).normSq = f v.normSq := by
  simp only [V3.map, V3.normSq, V3.dot, f.map_add, f.map_mul]

theorem M3.map_sub (a b : M3 K) : (M3.sub a b).map f = M3.sub (a.map f) (b.map f) := by
  simp only [M3.map, M3.sub, hsub]

theorem M3.map_one : (M3.one : M3 K).map f = M3.one := by
  simp only [M3.map, M3.one, f.map_one, f.map_zero]

theorem M3.frobSq_map (a : M3 K) : (a.map f).frobSq = f a.frobSq := by
  simp only [M3.map, M3.frobSq, f.map_add, f.map_mul]

theorem M3.angleCore_map (a : M3 K) : (a.map f).angleCore = (f a.angleCore.1, f a.angleCore.2) := by
  simp only [M3.map, M3.angleCore, M3.trace, V3.normSq, V3.dot, f.map_add, f.map_mul, hsub, hdiv, f.map_one]

theorem Pose.map_rel (a b : Pose K) : (a.rel b).map f = (a.map f).rel (b.map f) := by
  simp only [Pose.map, M3.map, V3.map, Pose.rel, Pose.mul, Pose.inv, M3.mul, M3.transpose, M3.mulVec, V3.add,
    V3.neg, f.map_add, f.map_mul, hneg]

end hom

/-- the angle is written with `Complex.arg ⟨c, √s2⟩`, which is `atan2 (√s2) c` unfolded:
`Core.value_angle_rad` below is the `rfl` bridge to it -/
noncomputable def Core.value : Core ℝ → ℝ
  | .sqrt r => Real.sqrt r
  | .angle c s2 deg =>
      if deg then Complex.arg ⟨c, Real.sqrt s2⟩ * (180 / Real.pi) else Complex.arg ⟨c, Real.sqrt s2⟩
  | .sqrtDiff a b => |Real.sqrt a - Real.sqrt b|
  | .sqrtRatio a b => |Real.sqrt a - Real.sqrt b| / Real.sqrt a * 100

/-- this is `angleR` of `Lemmas/LieReal.lean` when `(c, s2)` is the angle core of `relSo3` -/
theorem Core.value_angle_rad (c s2 : ℝ) : (Core.angle c s2 false).value = atan2 (√s2) c := rfl

theorem Core.value_nonneg (c : Core ℝ) : 0 ≤ c.value := by
  cases c with
  | sqrt r => exact Real.sqrt_nonneg _
  | angle c s2 deg =>
    have h := (atan2_range (√s2) c (Real.sqrt_nonneg s2)).1
    cases deg
    · exact h
    · exact mul_nonneg h (div_nonneg (by norm_num) Real.pi_pos.le)
  | sqrtDiff a b => exact abs_nonneg _
  | sqrtRatio a b =>
    exact mul_nonneg (div_nonneg (abs_nonneg _) (Real.sqrt_nonneg _)) (by norm_num)

theorem Core.value_angle_rad_le (c s2 : ℝ) : (Core.angle c s2 false).value ≤ Real.pi :=
  (atan2_range (√s2) c (Real.sqrt_nonneg s2)).2

theorem Core.value_angle_deg_le (c s2 : ℝ) : (Core.angle c s2 true).value ≤ 180 := by
  simp only [Core.value, if_true]
  have h := Complex.arg_le_pi (⟨c, Real.sqrt s2⟩ : ℂ)
  have hp := Real.pi_pos
  calc Complex.arg ⟨c, Real.sqrt s2⟩ * (180 / Real.pi) ≤ Real.pi * (180 / Real.pi) :=
        mul_le_mul_of_nonneg_right h (div_nonneg (by norm_num) hp.le)
    _ = 180 := by field_simp

theorem Core.value_of_isZero {c : Core ℝ} (h : c.IsZero) : c.value = 0 := by
  cases c with
  | sqrt r => simp only [Core.IsZero] at h; simp [Core.value, h]
  | angle c s2 deg =>
    obtain ⟨rfl, rfl⟩ := h
    have : (⟨1, 0⟩ : ℂ) = 1 := by
      apply Complex.ext <;> simp
    cases deg <;> simp [Core.value, this]
  | sqrtDiff a b => simp only [Core.IsZero] at h; simp [Core.value, h]
  | sqrtRatio a b => simp only [Core.IsZero] at h; simp [Core.value, h]

def Core.map {K L : Type} (f : K → L) : Core K → Core L
  | .sqrt r => .sqrt (f r)
  | .angle c s d => .angle (f c) (f s) d
  | .sqrtDiff a b => .sqrtDiff (f a) (f b)
  | .sqrtRatio a b => .sqrtRatio (f a) (f b)

section hom
variable {K L : Type} [Field K] [Field L] (f : K →+* L)

theorem reduceE_map (rel : PoseRelation) (E : Pose K) : (reduceE rel E).map f = reduceE rel (E.map f) := by
  cases rel <;>
    simp only [reduceE, Core.map, Pose.map, ← M3.map_one f, ← M3.map_sub, M3.frobSq_map, V3.normSq_map,
      M3.angleCore_map, f.map_add, f.map_zero]

theorem apeCore_map (rel : PoseRelation) (ref est : Pose K) :
    (apeCore rel ref est).map f = apeCore rel (ref.map f) (est.map f) := by
  cases rel <;> simp only [apeCore, apeBase, reduceE_map, Pose.map_rel] <;>
    simp only [Core.map, ← V3.normSq_map, V3.map_sub, f.map_zero] <;> rfl

theorem rpeCore_map (rel : PoseRelation) (Qi Qj Pi Pj : Pose K) :
    (rpeCore rel Qi Qj Pi Pj).map f = rpeCore rel (Qi.map f) (Qj.map f) (Pi.map f) (Pj.map f) := by
  cases rel <;> simp only [rpeCore, rpeBase, reduceE_map, Pose.map_rel] <;>
    simp only [Core.map, refDistSq, ← V3.normSq_map, V3.map_sub] <;> rfl

end hom

end Evo
