/-
Lemmas about `Model/Pipeline.lean`: the selection steps only pick input poses (each stage returns its
input, a `reduceIds` of it: `reduceIds_subset`, or an association, whose poses are input poses by C05), the
geometry steps act pose by pose, and what `apeRun` and `rpeRun` alike hand to the metric (`processed_ok`).
-/
import EvoModel.Model.Pipeline
import EvoModel.Lemmas.Metrics
import EvoModel.Props.C05
namespace Evo.Pipeline
open Evo

theorem liftSel_ok {α : Type} {x : Except Select.Err α} {a : α} : liftSel x = .ok a ↔ x = .ok a := by
  cases x with
  | ok b => simp [liftSel]
  | error e => cases e <;> simp [liftSel]

theorem liftMetric_ok {α : Type} {x : Except MetricErr α} {a : α} : liftMetric x = .ok a ↔ x = .ok a := by
  cases x with
  | ok b => simp [liftMetric]
  | error e => cases e <;> simp [liftMetric]

theorem mem_tagTraj {t : Traj} {x : TPose} (h : x ∈ tagTraj t) :
    t.stamps[x.2.2]? = some x.1 ∧ t.poses[x.2.2]? = some x.2.1 := by
  obtain ⟨i, hi, rfl⟩ := List.mem_iff_getElem.mp h
  simp only [tagTraj, List.length_zip, List.length_zipIdx, Nat.lt_min] at hi
  simp only [tagTraj, List.getElem_zip, List.getElem_zipIdx, Nat.zero_add, List.getElem?_eq_getElem hi.1,
    List.getElem?_eq_getElem hi.2, and_self]

theorem downsampleStep_subset {n : Int} {l l' : List TPose} (h : downsampleStep n l = .ok l') : l' ⊆ l := by
  unfold downsampleStep at h
  split at h
  · split at h
    · exact Except.ok.inj h ▸ List.Subset.refl _
    · cases h
  · have h' := liftSel_ok.mp h
    unfold Select.downsample Select.downsampleWith at h'
    split at h'
    · cases h'
    · exact Except.ok.inj h' ▸ List.Subset.refl _
    · exact Except.ok.inj h' ▸ reduceIds_subset ..

theorem motionStep_subset {pi d a : Rat} {mp : MotionPar} {l l' : List TPose}
    (h : motionStep pi d a mp l = .ok l') : l' ⊆ l := by
  simp only [motionStep, guard_ok_iff] at h
  split at h
  · cases h.2
  · exact Except.ok.inj h.2 ▸ reduceIds_subset ..

theorem stageCrop_subset {o : CommonOpts} {l l' : List TPose} (h : stageCrop o l = .ok l') : l' ⊆ l := by
  unfold stageCrop at h
  split at h
  · have h' := liftSel_ok.mp h
    unfold Select.crop at h'
    split at h'
    · cases h'
    · exact Except.ok.inj h' ▸ reduceIds_subset ..
  · exact Except.ok.inj h ▸ List.Subset.refl _

theorem stageDown_subset {o : CommonOpts} {r e : List TPose} {p : List TPose × List TPose}
    (h : stageDown o r e = .ok p) : p.1 ⊆ r ∧ p.2 ⊆ e := by
  unfold stageDown at h
  split at h
  · split at h
    · exact Except.ok.inj h ▸ ⟨.refl _, .refl _⟩
    · simp only [bind_ok_iff] at h
      obtain ⟨r', hr, e', he, h⟩ := h
      exact Except.ok.inj h ▸ ⟨downsampleStep_subset hr, downsampleStep_subset he⟩
  · exact Except.ok.inj h ▸ ⟨.refl _, .refl _⟩

theorem stageMotion_subset {o : CommonOpts} {P : Params} {r e : List TPose} {p : List TPose × List TPose}
    (h : stageMotion o P r e = .ok p) : p.1 ⊆ r ∧ p.2 ⊆ e := by
  unfold stageMotion at h
  split at h
  · simp only [guard_ok_iff, bind_ok_iff] at h
    obtain ⟨_, r', hr, e', he, h⟩ := h
    exact Except.ok.inj h ▸ ⟨motionStep_subset hr, motionStep_subset he⟩
  · exact Except.ok.inj h ▸ ⟨.refl _, .refl _⟩

theorem stageSync_ok {o : CommonOpts} {r e : List TPose} {p : List TPose × List TPose}
    (h : stageSync o r e = .ok p) (hs : o.hasStamps = true) :
    ∃ r', stageCrop o r = .ok r' ∧ Sync.associate r' e o.tMaxDiff o.tOffset = .ok p := by
  simp only [stageSync, if_pos hs, bind_ok_iff] at h
  obtain ⟨r', hr, h⟩ := h
  split at h
  · cases h
  · next q hq => exact ⟨r', hr, Except.ok.inj h ▸ hq⟩

theorem stageSync_subset {o : CommonOpts} {r e : List TPose} {p : List TPose × List TPose}
    (h : stageSync o r e = .ok p) : p.1 ⊆ r ∧ p.2 ⊆ e := by
  by_cases hs : o.hasStamps = true
  · obtain ⟨r', hr, ha⟩ := stageSync_ok h hs
    obtain ⟨_, h1, h2⟩ := C05.associate_poses_are_input_poses r' e o.tMaxDiff o.tOffset p.1 p.2 ha
    exact ⟨fun x hx => stageCrop_subset hr (h1 x hx), h2⟩
  · rw [stageSync, if_neg hs] at h
    exact Except.ok.inj h ▸ ⟨.refl _, .refl _⟩

theorem selectPairs_ok {o : CommonOpts} {P : Params} {ref est : Traj} {p : List TPose × List TPose}
    (h : selectPairs o P ref est = .ok p) :
    ∃ r2 e2, r2 ⊆ tagTraj ref ∧ e2 ⊆ tagTraj est ∧ stageSync o r2 e2 = .ok p := by
  simp only [selectPairs, bind_ok_iff] at h
  obtain ⟨p1, h1, p2, h2, h3⟩ := h
  have m1 := stageDown_subset h1
  have m2 := stageMotion_subset h2
  exact ⟨p2.1, p2.2, List.Subset.trans m2.1 m1.1, List.Subset.trans m2.2 m1.2, h3⟩

theorem selectPairs_mem {o : CommonOpts} {P : Params} {ref est : Traj} {p : List TPose × List TPose}
    (h : selectPairs o P ref est = .ok p) : p.1 ⊆ tagTraj ref ∧ p.2 ⊆ tagTraj est := by
  obtain ⟨r2, e2, m1, m2, h3⟩ := selectPairs_ok h
  have m3 := stageSync_subset h3
  exact ⟨List.Subset.trans m3.1 m1, List.Subset.trans m3.2 m2⟩

theorem selectPairs_sync {o : CommonOpts} {P : Params} {ref est : Traj} {p : List TPose × List TPose}
    (h : selectPairs o P ref est = .ok p) (hs : o.hasStamps = true) :
    ∃ r2 e2 r3, r2 ⊆ tagTraj ref ∧ e2 ⊆ tagTraj est ∧ stageCrop o r2 = .ok r3 ∧
      Sync.associate r3 e2 o.tMaxDiff o.tOffset = .ok p := by
  obtain ⟨r2, e2, m1, m2, h3⟩ := selectPairs_ok h
  obtain ⟨r3, hr, ha⟩ := stageSync_ok h3 hs
  exact ⟨r2, e2, r3, m1, m2, hr, ha⟩

/-- what `align()` does to one pose of the estimate for the returned `(R, t, s)` -/
def alignPose (o : CommonOpts) (P : Params) (p : Pose Rat) : Pose Rat :=
  match alignKind o.align o.correctScale with
  | none => p
  | some .se3 => Pose.mul (Align.se3 P.umeR P.umeT) p
  | some .sim3 => Pose.mul (Align.se3 P.umeR P.umeT) ⟨p.rot, V3.smul P.umeS p.t⟩
  | some .scaleOnly => ⟨p.rot, V3.smul P.umeS p.t⟩

/-- the origin transformation `ref₀ · se3_inverse(est₀)` (identity without `--align_origin`) -/
def originT (o : CommonOpts) (ref est1 : List (Pose Rat)) : Pose Rat :=
  if o.alignOrigin then
    match ref, est1 with
    | r0 :: _, e0 :: _ => Pose.mul r0 (Pose.inv e0)
    | _, _ => Pose.one
  else Pose.one

def projAll (pl : Option Evo.Plane) (dirs : List (Rat × Rat)) (ps : List (Pose Rat)) : List (Pose Rat) :=
  match pl with
  | none => ps
  | some p => Project.projectPoses (planeOf p) ps dirs

theorem alignStep_ok {o : CommonOpts} {P : Params} {ref est e1 : List (Pose Rat)}
    (h : alignStep o P ref est = .ok e1) : e1 = est.map (alignPose o P) := by
  unfold alignStep at h
  split at h
  · next hk =>
    have : alignPose o P = id := funext fun p => by simp only [alignPose, hk, id]
    rw [this, List.map_id, Except.ok.inj h]
  · next k hk =>
    simp only [guard_ok_iff] at h
    have : alignPose o P = fun p => alignPose o P p := rfl
    rw [← Except.ok.inj h.2.2.2, this]
    cases k <;>
      simp [alignPose, hk, alignMode, Align.alignApply, Align.transformLeft, Align.scalePath, List.map_map,
        Function.comp_def]

theorem originStep_ok {o : CommonOpts} {ref e1 e2 : List (Pose Rat)}
    (h : originStep o ref e1 = .ok e2) : e2 = e1.map (Pose.mul (originT o ref e1)) := by
  unfold originStep at h
  unfold originT
  split at h
  · next ho =>
    rw [if_pos ho]
    match ref, e1, h with
    | r0 :: _, e0 :: _, h => exact (Except.ok.inj h).symm
    | [], _, h => cases h
    | _ :: _, [], h => cases h
  · next ho =>
    have : Pose.mul (Pose.one : Pose Rat) = id := funext Pose.one_mul'
    rw [if_neg ho, this, List.map_id, Except.ok.inj h]

theorem projectPoses_length (pl : Project.Plane) :
    ∀ (ps : List (Pose Rat)) (dirs : List (Rat × Rat)), dirs.length = ps.length →
      (Project.projectPoses pl ps dirs).length = ps.length
  | [], [], _ => rfl
  | p :: ps, d :: ds, h => by
      simp only [Project.projectPoses, List.length_cons]
      rw [projectPoses_length pl ps ds (by simpa using h)]
  | [], _ :: _, h => by simp at h
  | _ :: _, [], h => by simp at h

theorem projectStep_ok {pl : Option Evo.Plane} {dirs : List (Rat × Rat)} {ps ps' : List (Pose Rat)}
    (h : projectStep pl dirs ps = .ok ps') : ps' = projAll pl dirs ps ∧ ps'.length = ps.length := by
  unfold projectStep at h
  unfold projAll
  split at h
  · exact Except.ok.inj h ▸ ⟨rfl, rfl⟩
  · obtain ⟨hl, h⟩ := guard_ok_iff.mp h
    exact Except.ok.inj h ▸ ⟨rfl, projectPoses_length _ _ _ (not_not.mp hl)⟩

theorem geometry_ok {o : CommonOpts} {P : Params} {ref est : List (Pose Rat)} {g : List (Pose Rat) × List (Pose Rat)}
    (h : geometry o P ref est = .ok g) :
    g.1 = projAll o.plane P.dirsRef ref ∧
    g.2 = projAll o.plane P.dirsEst
            ((est.map (alignPose o P)).map (Pose.mul (originT o ref (est.map (alignPose o P))))) ∧
    g.1.length = ref.length ∧ g.2.length = est.length := by
  simp only [geometry, bind_ok_iff] at h
  obtain ⟨e1, h1, e2, h2, r3, h3, e3, h4, h⟩ := h
  obtain rfl := alignStep_ok h1
  obtain rfl := originStep_ok h2
  obtain ⟨a3, l3⟩ := projectStep_ok h3
  obtain ⟨a4, l4⟩ := projectStep_ok h4
  obtain rfl := Except.ok.inj h
  exact ⟨a3, a4, l3, by rw [l4, List.length_map, List.length_map]⟩

theorem processed_ok {o : CommonOpts} {P : Params} {ref est : Traj} {sel : List TPose × List TPose}
    {g : List (Pose Rat) × List (Pose Rat)} (hsel : selectPairs o P ref est = .ok sel)
    (hg : geometry o P (posesOf sel.1) (posesOf sel.2) = .ok g) :
    (∀ x ∈ sel.1, ref.stamps[x.2.2]? = some x.1 ∧ ref.poses[x.2.2]? = some x.2.1) ∧
    (∀ x ∈ sel.2, est.stamps[x.2.2]? = some x.1 ∧ est.poses[x.2.2]? = some x.2.1) ∧
    g.1 = projAll o.plane P.dirsRef (posesOf sel.1) ∧
    g.2 = projAll o.plane P.dirsEst (((posesOf sel.2).map (alignPose o P)).map
            (Pose.mul (originT o (posesOf sel.1) ((posesOf sel.2).map (alignPose o P))))) ∧
    g.1.length = sel.1.length ∧ g.2.length = sel.2.length := by
  obtain ⟨m1, m2⟩ := selectPairs_mem hsel
  obtain ⟨g1, g2, l1, l2⟩ := geometry_ok hg
  exact ⟨fun x hx => mem_tagTraj (m1 hx), fun x hx => mem_tagTraj (m2 hx), g1, g2,
    l1.trans (List.length_map _), l2.trans (List.length_map _)⟩

theorem selectIdPairs_ok {o : RpeOpts} {P : Params} {gr ge : List (Pose Rat)} {pairs : List (Nat × Nat)}
    (h : selectIdPairs o P gr ge = .ok pairs) :
    rpeCtorOk o.delta o.deltaUnit = true ∧ gr.length = ge.length ∧
    Pairs.idPairsFromDelta
      ⟨(if o.pairsFromReference then gr.length else ge.length), P.pairs.steps, P.pairs.cang,
       triAng (if o.pairsFromReference then gr.length else ge.length) P.pairs.tri, P.pi⟩
      o.delta (dunitOf o.deltaUnit) o.deltaTol o.allPairs = .ok pairs := by
  simp only [selectIdPairs, guard_ok_iff, Bool.not_eq_true', Bool.not_eq_false, not_not, ne_eq] at h
  obtain ⟨hc, hl, _, h⟩ := h
  split at h
  · cases h
  · next ps hp => exact ⟨hc, hl, Except.ok.inj h ▸ hp⟩

end Evo.Pipeline
