/-
Index lemmas for the slicing functions of `Model/Plot.lean`: `l[c::s]`, the segment list
`zip(l[:-1:s], l[1::s])`, interleaving, and the vertex list of the coordinate-frame markers.
-/
import EvoModel.Model.Plot
import EvoModel.Lemmas.Lin
namespace Evo.Plot

variable {α : Type}

theorem strideGo_getElem? (s : Nat) (hs : 0 < s) (l : List α) (c k : Nat) :
    (strideGo s c l)[k]? = l[c + s * k]? := by
  induction l generalizing c k with
  | nil => simp [strideGo]
  | cons x r ih =>
    cases c with
    | zero =>
      cases k with
      | zero => simp [strideGo]
      | succ k =>
        have e : 0 + s * (k + 1) = (s - 1 + s * k) + 1 := by
          rw [Nat.mul_succ]; omega
        simp only [strideGo, List.getElem?_cons_succ, ih, e]
    | succ c =>
      have e : c + 1 + s * k = (c + s * k) + 1 := by omega
      simp only [strideGo, ih, e, List.getElem?_cons_succ]

theorem stride_getElem? (s : Nat) (hs : 0 < s) (l : List α) (k : Nat) :
    (stride s l)[k]? = l[s * k]? := by
  unfold stride; rw [strideGo_getElem? s hs]; simp

theorem lineSegs_getElem? (s : Nat) (hs : 0 < s) (l : List α) (k : Nat) :
    (lineSegs s l)[k]? =
      if h : s * k + 1 < l.length then some (l[s * k]'(by omega), l[s * k + 1]) else none := by
  unfold lineSegs
  split
  · next h =>
    rw [List.getElem?_zip_eq_some, stride_getElem? s hs, stride_getElem? s hs, List.getElem?_dropLast,
      List.getElem?_drop]
    refine ⟨?_, ?_⟩
    · rw [if_pos (by omega)]; exact List.getElem?_eq_getElem (by omega)
    · rw [Nat.add_comm 1]; exact List.getElem?_eq_getElem h
  · next h =>
    rw [List.zip, List.getElem?_zipWith, stride_getElem? s hs, stride_getElem? s hs, List.getElem?_drop]
    have : l[1 + s * k]? = none := by
      rw [List.getElem?_eq_none_iff]; omega
    rw [this]
    cases (l.dropLast)[s * k]? <;> rfl

theorem lineSegs_lt_length_iff (s : Nat) (hs : 0 < s) (l : List α) (k : Nat) :
    k < (lineSegs s l).length ↔ s * k + 1 < l.length := by
  rw [← isSome_getElem? (lineSegs s l) k, lineSegs_getElem? s hs]
  split <;> simp [*]

/-- the count `n` is given by its index range, which callers settle by `omega` for their `s` -/
theorem lineSegs_length_eq (s : Nat) (hs : 0 < s) (l : List α) (n : Nat) (h : ∀ k, s * k + 1 < l.length ↔ k < n) :
    (lineSegs s l).length = n := by
  have hk := fun k => (lineSegs_lt_length_iff s hs l k).trans (h k)
  exact Nat.le_antisymm (Nat.le_of_not_lt fun hc => Nat.lt_irrefl _ ((hk n).mp hc))
    (Nat.le_of_not_lt fun hc => Nat.lt_irrefl _ ((hk _).mpr hc))

theorem lineSegs_two_length (l : List α) : (lineSegs 2 l).length = l.length / 2 :=
  lineSegs_length_eq 2 (by omega) l _ fun k => by omega

variable {β : Type}

theorem flatMap_pair_length (f g : α → β) (l : List α) :
    (l.flatMap (fun p => [f p, g p])).length = 2 * l.length := by
  induction l with
  | nil => rfl
  | cons x r ih => simp only [List.flatMap_cons, List.length_append, List.length_cons, ih]; simp; omega

theorem lineSegs_two_cons_cons (x y : α) (r : List α) : lineSegs 2 (x :: y :: r) = (x, y) :: lineSegs 2 r := by
  cases r <;> rfl

/-- cutting a list of flattened pairs into segments with step 2 gives the pairs back -/
theorem lineSegs_two_flatMap_pair (f g : α → β) (l : List α) (r : List β) :
    lineSegs 2 (l.flatMap (fun p => [f p, g p]) ++ r) = l.map (fun p => (f p, g p)) ++ lineSegs 2 r := by
  induction l with
  | nil => rfl
  | cons x l ih => exact (lineSegs_two_cons_cons _ _ _).trans (congrArg (_ :: ·) ih)

theorem interleave_eq : ∀ (a b : List α), interleave a b = (a.zip b).flatMap (fun p => [p.1, p.2])
  | [], _ => rfl
  | _ :: _, [] => rfl
  | _ :: as, _ :: bs => congrArg (_ :: _ :: ·) (interleave_eq as bs)

theorem interleave_length (a b : List α) (h : a.length = b.length) :
    (interleave a b).length = 2 * a.length := by
  rw [interleave_eq, flatMap_pair_length, List.length_zip, h, Nat.min_self]

theorem lineSegs_two_interleave : ∀ (a b : List α), lineSegs 2 (interleave a b) = a.zip b
  | [], _ => rfl
  | _ :: _, [] => rfl
  | x :: as, y :: bs => (lineSegs_two_cons_cons x y _).trans (congrArg (_ :: ·) (lineSegs_two_interleave as bs))

theorem axisVertices_length (scale : Rat) (a : Nat) (poses : List (Pose Rat)) :
    (axisVertices scale a poses).length = 2 * poses.length :=
  flatMap_pair_length _ _ _

theorem coordAxesVertices_length (scale : Rat) (poses : List (Pose Rat)) :
    (coordAxesVertices scale poses).length = 2 * (3 * poses.length) := by
  simp only [coordAxesVertices, List.length_append, axisVertices_length]; omega

/-- the markers as segments: segment `a·n + i` is marker `a` (x, y, z) of pose `i` -/
theorem coordAxesVertices_segs (scale : Rat) (poses : List (Pose Rat)) (a i : Nat) (ha : a < 3) (hi : i < poses.length) :
    (lineSegs 2 (coordAxesVertices scale poses))[a * poses.length + i]? = some (poses[i].t, axisTip scale a poses[i]) := by
  unfold coordAxesVertices
  rw [List.append_assoc, ← List.append_nil (axisVertices scale 2 poses)]
  unfold axisVertices
  simp only [lineSegs_two_flatMap_pair, List.getElem?_append, List.length_map]
  rcases (by omega : a = 0 ∨ a = 1 ∨ a = 2) with rfl | rfl | rfl
  · rw [if_pos (by omega)]; simp [hi]
  · rw [if_neg (by omega), if_pos (by omega)]; simp [hi]
  · rw [if_neg (by omega), if_neg (by omega), if_pos (by omega), show 2 * poses.length + i - poses.length - poses.length = i by omega]
    simp [hi]

theorem axisTip_eq (scale : Rat) (a : Nat) (p : Pose Rat) :
    axisTip scale a p = V3.add p.t (V3.smul scale (colOf p.rot a)) := by
  unfold axisTip unitVec colOf
  rcases a with _ | _ | a <;> (lin_unfold; and_intros <;> ring)

end Evo.Plot
