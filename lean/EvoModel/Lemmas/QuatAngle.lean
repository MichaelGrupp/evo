/-
The triangle inequality of the rotation angle, through unit quaternions (C09).  On the unit sphere of a real inner
product space `δ(p, q) = arccos |⟪p, q⟫|` (the metric of projective space) satisfies the triangle inequality, by
Mathlib's `InnerProductGeometry.angle_le_angle_add_angle` applied to `p, ±q, ±r`.  Every proper rotation is `quatRot`
(`transformations.quaternion_matrix`) of a unit quaternion: for `tr R ≠ −1` by Shepperd's first case (from the
polynomial Rodrigues identity of `Lemmas/SO3`), at angle π of `(0, piAxis R)` from `Lemmas/LieAtPi`.  Since
`tr(quatRot(p)ᵀ quatRot(q)) = 4⟨p, q⟩² − 1`, the angle between `quatRot p` and `quatRot q` is `2·arccos|⟨p, q⟩|`
(half-angle), so the triangle inequality of `arccos c(AᵀB)`, `c(R) = (tr R − 1)/2`, is the one of projective 3-space.
-/
import EvoModel.Lemmas.LieAtPi
import Mathlib.Geometry.Euclidean.Angle.Unoriented.TriangleInequality
namespace Evo
open Real InnerProductGeometry
open scoped RealInnerProductSpace

theorem exists_sign (a : ℝ) : ∃ ε : ℝ, (ε = 1 ∨ ε = -1) ∧ ε * a = |a| := by
  rcases le_or_gt 0 a with h | h
  · exact ⟨1, Or.inl rfl, by rw [abs_of_nonneg h, one_mul]⟩
  · exact ⟨-1, Or.inr rfl, by rw [abs_of_neg h]; ring⟩

section
variable {V : Type*} [NormedAddCommGroup V] [InnerProductSpace ℝ V]

theorem angle_unit (x y : V) (hx : ‖x‖ = 1) (hy : ‖y‖ = 1) : angle x y = arccos ⟪x, y⟫ := by
  unfold angle; rw [hx, hy]; simp

theorem norm_sign_smul (ε : ℝ) (h : ε = 1 ∨ ε = -1) (x : V) (hx : ‖x‖ = 1) : ‖ε • x‖ = 1 := by
  rcases h with rfl | rfl <;> simp [hx]

theorem arccos_abs_inner_triangle (p q r : V) (hp : ‖p‖ = 1) (hq : ‖q‖ = 1) (hr : ‖r‖ = 1) :
    arccos |⟪p, r⟫| ≤ arccos |⟪p, q⟫| + arccos |⟪q, r⟫| := by
  obtain ⟨e1, he1, h1⟩ := exists_sign ⟪p, q⟫
  obtain ⟨e2, he2, h2⟩ := exists_sign ⟪e1 • q, r⟫
  have hq' := norm_sign_smul e1 he1 q hq
  have hr' := norm_sign_smul e2 he2 r hr
  have t := angle_le_angle_add_angle p (e1 • q) (e2 • r)
  rw [angle_unit _ _ hp hr', angle_unit _ _ hp hq', angle_unit _ _ hq' hr'] at t
  have i1 : ⟪p, e1 • q⟫ = |⟪p, q⟫| := by rw [inner_smul_right]; exact h1
  have i2 : ⟪e1 • q, e2 • r⟫ = |⟪q, r⟫| := by
    rw [inner_smul_right, h2, inner_smul_left]
    simp only [RCLike.conj_to_real]
    rw [abs_mul]; rcases he1 with rfl | rfl <;> simp
  have i3 : ⟪p, e2 • r⟫ ≤ |⟪p, r⟫| := by
    rw [inner_smul_right]
    rcases he2 with rfl | rfl
    · rw [one_mul]; exact le_abs_self _
    · rw [neg_one_mul]; exact neg_le_abs _
  rw [i1, i2] at t
  exact (arccos_le_arccos i3).trans t
end

noncomputable def qvec (w x y z : ℝ) : EuclideanSpace ℝ (Fin 4) := !₂[w, x, y, z]

theorem qvec_inner (w x y z a b c d : ℝ) :
    ⟪qvec w x y z, qvec a b c d⟫ = w * a + x * b + y * c + z * d := by
  simp [qvec, PiLp.inner_apply, Fin.sum_univ_four]
  ring

theorem qvec_norm (w x y z : ℝ) (h : w * w + x * x + y * y + z * z = 1) : ‖qvec w x y z‖ = 1 := by
  have : ‖qvec w x y z‖ ^ 2 = 1 := by
    rw [← real_inner_self_eq_norm_sq, qvec_inner]; exact h
  exact (pow_eq_one_iff_of_nonneg (norm_nonneg _) two_ne_zero).mp this

theorem abs_qdot_le_one (w x y z a b c d : ℝ) (hq : w * w + x * x + y * y + z * z = 1)
    (hp : a * a + b * b + c * c + d * d = 1) : |w * a + x * b + y * c + z * d| ≤ 1 := by
  have := abs_real_inner_le_norm (qvec w x y z) (qvec a b c d)
  rw [qvec_inner, qvec_norm _ _ _ _ hq, qvec_norm _ _ _ _ hp] at this
  linarith

/-- `transformations.quaternion_matrix` for a unit quaternion `(w, x, y, z)` -/
def quatRot (w x y z : ℝ) : M3 ℝ :=
  ⟨1 - 2 * (y * y + z * z), 2 * (x * y - z * w), 2 * (x * z + y * w),
   2 * (x * y + z * w), 1 - 2 * (x * x + z * z), 2 * (y * z - x * w),
   2 * (x * z - y * w), 2 * (y * z + x * w), 1 - 2 * (x * x + y * y)⟩

theorem quatRot_eq_rodrigues (w : ℝ) (v : V3 ℝ) : quatRot w v.x v.y v.z = rodrigues v (2 * w) 2 := by
  ext <;> simp only [quatRot, rodrigues_eq] <;> ring

theorem quatRot_isRot (w x y z : ℝ) (h : w * w + x * x + y * y + z * z = 1) : IsRot (quatRot w x y z) := by
  rw [show quatRot w x y z = _ from quatRot_eq_rodrigues w ⟨x, y, z⟩]
  exact rodrigues_isRot _ _ _ (by simp only [V3.normSq, V3.dot]; linear_combination 4 * h)

theorem quatRot_conj (w x y z : ℝ) : quatRot w (-x) (-y) (-z) = (quatRot w x y z).transpose := by
  ext <;> simp only [quatRot, M3.transpose] <;> ring

theorem quatRot_trace (w x y z : ℝ) (h : w * w + x * x + y * y + z * z = 1) :
    (quatRot w x y z).trace = 4 * (w * w) - 1 := by
  simp only [quatRot, M3.trace]; linear_combination (-4) * h

theorem quatRot_rel_trace (a b c d w x y z : ℝ) (hp : a * a + b * b + c * c + d * d = 1)
    (hq : w * w + x * x + y * y + z * z = 1) :
    (relSo3 (quatRot a b c d) (quatRot w x y z)).trace = 4 * (a * w + b * x + c * y + d * z) ^ 2 - 1 := by
  simp only [relSo3, quatRot, M3.mul, M3.transpose, M3.trace]
  linear_combination (-4*a^2) * hq + (4*x^2 + 4*y^2 + 4*z^2 - 4) * hp

/-- Shepperd's first case: the quaternion is `(σ/2, w/σ)` with `σ = √(1 + tr R)`, `w = vee((R − Rᵀ)/2)`, because
`R = I + hat w + (2/σ²)(hat w)²` (`IsRot.eq_rodrigues`). -/
theorem exists_quat_of_trace_ne (r : M3 ℝ) (h : IsRot r) (ht : r.trace ≠ -1) :
    ∃ w x y z : ℝ, w * w + x * x + y * y + z * z = 1 ∧ quatRot w x y z = r := by
  have hs : 0 < 1 + r.trace := lt_of_le_of_ne (by linarith [h.neg_one_le_trace]) (by
    intro e; exact ht (by linarith))
  have hσ : √(1 + r.trace) * √(1 + r.trace) = 1 + r.trace := Real.mul_self_sqrt hs.le
  have hσ0 : √(1 + r.trace) ≠ 0 := (Real.sqrt_pos.mpr hs).ne'
  set σ := √(1 + r.trace)
  have hk : 1 / σ * (1 / σ) * (1 + r.trace) = 1 := one_div_sqrt_mul_self hs
  have hn := h.axis_normSq
  refine ⟨σ / 2, _, _, _, ?_, (quatRot_eq_rodrigues (σ / 2) (V3.smul (1 / σ) r.axisVec)).trans ?_⟩
  · simp only [V3.normSq, V3.dot] at hn
    simp only [V3.smul]
    linear_combination (1 / 4) * hσ + (1 / σ * (1 / σ)) * hn + ((3 - r.trace) / 4) * hk
  · rw [rodrigues_smul, show 2 * (σ / 2) * (1 / σ) = 1 by field_simp]
    exact h.eq_rodrigues (by rw [M3.angleCore_fst]; linear_combination hk)

/-- at angle π (`tr R = −1`) the quaternion is `(0, n)` with `n = piAxis R`: `quatRot 0 n = 2 n nᵀ − I = R` -/
theorem exists_quat (r : M3 ℝ) (h : IsRot r) :
    ∃ w x y z : ℝ, w * w + x * x + y * y + z * z = 1 ∧ quatRot w x y z = r := by
  by_cases ht : r.trace = -1
  · have hc : r.angleCore.1 = -1 := by rw [M3.angleCore_fst, ht]; norm_num
    have hn := piAxis_normSq h hc
    refine ⟨0, _, _, _, ?_, (quatRot_eq_rodrigues 0 (piAxis r)).trans ?_⟩
    · simp only [V3.normSq, V3.dot] at hn; linear_combination hn
    · rw [mul_zero, rodrigues_half_turn _ hn, piAxis_outer h hc, M3.two_piP_sub_one]
  · exact exists_quat_of_trace_ne r h ht

theorem arccos_double (a : ℝ) (h : |a| ≤ 1) : arccos (2 * a ^ 2 - 1) = 2 * arccos |a| := by
  have h0 : 0 ≤ |a| := abs_nonneg a
  have hcos : cos (arccos |a|) = |a| := Real.cos_arccos (by linarith) h
  have hle : arccos |a| ≤ π / 2 := Real.arccos_le_pi_div_two.mpr h0
  have h2 : cos (2 * arccos |a|) = 2 * a ^ 2 - 1 := by
    rw [Real.cos_two_mul, hcos, sq_abs]
  rw [← h2, Real.arccos_cos (by linarith [Real.arccos_nonneg |a|]) (by linarith)]

theorem arccos_core_rel_quatRot (a b c d w x y z : ℝ) (hp : a * a + b * b + c * c + d * d = 1)
    (hq : w * w + x * x + y * y + z * z = 1) :
    arccos (relSo3 (quatRot a b c d) (quatRot w x y z)).angleCore.1
      = 2 * arccos |a * w + b * x + c * y + d * z| := by
  rw [M3.angleCore_fst, quatRot_rel_trace a b c d w x y z hp hq,
    ← arccos_double _ (abs_qdot_le_one a b c d w x y z hp hq)]
  congr 1; ring

theorem arccos_core_relSo3_le (a b c : M3 ℝ) (ha : IsRot a) (hb : IsRot b) (hc : IsRot c) :
    arccos (relSo3 a c).angleCore.1 ≤ arccos (relSo3 a b).angleCore.1 + arccos (relSo3 b c).angleCore.1 := by
  obtain ⟨a0, a1, a2, a3, hp, rfl⟩ := exists_quat a ha
  obtain ⟨b0, b1, b2, b3, hq, rfl⟩ := exists_quat b hb
  obtain ⟨c0, c1, c2, c3, hr, rfl⟩ := exists_quat c hc
  rw [arccos_core_rel_quatRot _ _ _ _ _ _ _ _ hp hr, arccos_core_rel_quatRot _ _ _ _ _ _ _ _ hp hq,
    arccos_core_rel_quatRot _ _ _ _ _ _ _ _ hq hr]
  have t := arccos_abs_inner_triangle (qvec a0 a1 a2 a3) (qvec b0 b1 b2 b3) (qvec c0 c1 c2 c3)
    (qvec_norm _ _ _ _ hp) (qvec_norm _ _ _ _ hq) (qvec_norm _ _ _ _ hr)
  rw [qvec_inner, qvec_inner, qvec_inner] at t
  linarith

end Evo
