/-
`reduceIds` (`Model/Basic.lean`, evo's `reduce_to_ids`): selection by an index list, shared by the
trajectory, selection, statistics, association and heap lemmas. Mathlib-free.
-/
import EvoModel.Model.Basic
namespace Evo

theorem reduceIds_cons {α} (l : List α) (i : Nat) (ids : List Nat) :
    reduceIds l (i :: ids) = l[i]?.toList ++ reduceIds l ids := by
  rw [reduceIds, List.filterMap_cons]
  cases l[i]? <;> rfl

theorem mem_reduceIds {α} {l : List α} {ids : List Nat} {x : α} (h : x ∈ reduceIds l ids) : x ∈ l := by
  obtain ⟨i, _, hi⟩ := List.mem_filterMap.mp h
  exact List.mem_of_getElem? hi

theorem reduceIds_subset {α} (l : List α) (ids : List Nat) : reduceIds l ids ⊆ l := fun _ => mem_reduceIds

theorem reduceIds_map {α β} (f : α → β) (l : List α) (ids : List Nat) :
    reduceIds (l.map f) ids = (reduceIds l ids).map f := by
  induction ids with
  | nil => rfl
  | cons i r ih =>
    rw [reduceIds_cons, reduceIds_cons, ih, List.getElem?_map, List.map_append]
    cases l[i]? <;> rfl

theorem reduceIds_length {α} (l : List α) (ids : List Nat) (h : ∀ i ∈ ids, i < l.length) :
    (reduceIds l ids).length = ids.length := by
  induction ids with
  | nil => rfl
  | cons i r ih =>
    obtain ⟨hi, hr⟩ := List.forall_mem_cons.mp h
    rw [reduceIds_cons, List.getElem?_eq_getElem hi, List.length_append, ih hr, Nat.add_comm]; rfl

theorem reduceIds_getElem? {α} (l : List α) (ids : List Nat) (h : ∀ i ∈ ids, i < l.length)
    (k : Nat) : (reduceIds l ids)[k]? = (ids[k]?).bind (fun i => l[i]?) := by
  induction ids generalizing k with
  | nil => rfl
  | cons i r ih =>
    obtain ⟨hi, hr⟩ := List.forall_mem_cons.mp h
    rw [reduceIds_cons, List.getElem?_eq_getElem hi]
    cases k with
    | zero => exact (List.getElem?_eq_getElem hi).symm
    | succ k => exact ih hr k

theorem reduceIds_getElem {α} (l : List α) (ids : List Nat) (h : ∀ i ∈ ids, i < l.length) (k : Nat)
    (hk : k < ids.length) : (reduceIds l ids)[k]? = l[ids[k]]? := by
  rw [reduceIds_getElem? l ids h, List.getElem?_eq_getElem hk]; rfl

/-- `reduce_to_ids` indexes positions, orientations and timestamps array by array: the entries of a kept pose stay
together (this lemma and `reduceIds_zip3`). -/
theorem reduceIds_zip {α β} (a : List α) (b : List β) (ids : List Nat) (h : a.length = b.length) :
    reduceIds (a.zip b) ids = (reduceIds a ids).zip (reduceIds b ids) := by
  induction ids with
  | nil => rfl
  | cons i r ih =>
    have hz : (a.zip b).length = a.length := by rw [List.length_zip, ← h, Nat.min_self]
    rw [reduceIds_cons, reduceIds_cons, reduceIds_cons, ih]
    rcases Nat.lt_or_ge i a.length with hi | hi
    · rw [List.getElem?_eq_getElem (hz ▸ hi), List.getElem?_eq_getElem hi, List.getElem?_eq_getElem (h ▸ hi),
        List.getElem_zip]
      rfl
    · rw [List.getElem?_eq_none (hz ▸ hi), List.getElem?_eq_none hi, List.getElem?_eq_none (h ▸ hi)]
      rfl

theorem reduceIds_zip3 {α β γ} (a : List α) (b : List β) (c : List γ) (ids : List Nat)
    (hab : a.length = b.length) (hbc : b.length = c.length) :
    reduceIds (List.zip a (List.zip b c)) ids
      = List.zip (reduceIds a ids) (List.zip (reduceIds b ids) (reduceIds c ids)) := by
  rw [reduceIds_zip a _ ids (by simp [hab, hbc]), reduceIds_zip b c ids hbc]

theorem reduceIds_sublist {α} (l : List α) (ids : List Nat) (h : ids.Pairwise (· < ·)) :
    (reduceIds l ids).Sublist l := by
  suffices ∀ k, (∀ i ∈ ids, k ≤ i) → (reduceIds l ids).Sublist (l.drop k) from this 0 (fun _ _ => Nat.zero_le _)
  induction ids with
  | nil => exact fun _ _ => List.nil_sublist _
  | cons i r ih =>
    intro k hk
    obtain ⟨hi, hr⟩ := List.pairwise_cons.mp h
    have tl := ih hr (i + 1) hi
    refine .trans ?_ (List.drop_sublist_drop_left l (hk i List.mem_cons_self))
    rw [reduceIds_cons]
    rcases Nat.lt_or_ge i l.length with hl | hl
    · rw [List.getElem?_eq_getElem hl, List.drop_eq_getElem_cons hl]; exact tl.cons_cons _
    · rw [List.getElem?_eq_none hl]; exact tl.trans (List.drop_sublist_drop_left l (Nat.le_succ i))

/-- no bound on `i + k`: indices past the end select nothing, like `take` -/
theorem reduceIds_range' {α} (l : List α) (i k : Nat) :
    reduceIds l (List.range' i k) = (l.drop i).take k := by
  induction k generalizing i with
  | zero => rfl
  | succ k ih =>
      rw [List.range'_succ, reduceIds_cons, ih (i + 1)]
      rcases Nat.lt_or_ge i l.length with hi | hi
      · rw [List.getElem?_eq_getElem hi, List.drop_eq_getElem_cons hi, List.take_succ_cons]; rfl
      · rw [List.getElem?_eq_none hi, List.drop_eq_nil_of_le hi, List.drop_eq_nil_of_le (Nat.le_succ_of_le hi),
          List.take_nil, List.take_nil]; rfl

theorem reduceIds_range {α} (l : List α) : reduceIds l (List.range l.length) = l := by
  rw [List.range_eq_range', reduceIds_range', List.drop_zero, List.take_length]

theorem reduceIds_perm {α} (l : List α) (ids : List Nat) (h : ids.Perm (List.range l.length)) :
    (reduceIds l ids).Perm l :=
  (h.filterMap _).trans (.of_eq (reduceIds_range l))

end Evo
