/-
Lemmas about `Model/ResultMerge.lean` (C13). `merge_results` tests neighbours only
(`all(p(a, b) for a, b in zip(l, l[1:]))`): for an equivalence relation that is a statement about all
pairs (`adjAll_iff`). Its left-to-right accumulation into a copy of the first result is put in closed
form per key (`foldl_addStats`, `foldl_addArrays_append`, `foldl_addArrays_avg`, `arr_combine`).
-/
import EvoModel.Model.ResultMerge
import EvoModel.Lemmas.ListAux
import EvoModel.Lemmas.Except
import Mathlib.Algebra.Order.Ring.Rat
namespace Evo.ResultMerge
open Evo

theorem lookup_isSome_iff {α} (d : Dict α) (k : String) : (lookup d k).isSome ↔ k ∈ keys d := by
  induction d with
  | nil => simp [lookup, keys]
  | cons p r ih =>
    rw [lookup, keys, List.map_cons, List.mem_cons, ← keys, ← ih]
    split
    · next h => simp [h]
    · next h => simp [Ne.symm h]

theorem lookup_map_val {α β} (d : Dict α) (g : String × α → β) (k : String) :
    lookup (d.map fun p => (p.1, g p)) k = (lookup d k).map fun v => g (k, v) := by
  induction d with
  | nil => rfl
  | cons p r ih =>
    obtain ⟨k', v⟩ := p
    simp only [List.map_cons, lookup]
    by_cases h : k' = k
    · simp [h]
    · simp [h, ih]

theorem keys_map_val {α β} (d : Dict α) (g : String × α → β) :
    keys (d.map fun p => (p.1, g p)) = keys d := by
  simp [keys, List.map_map, Function.comp_def]

theorem keysEq_iff (a b : List String) : keysEq a b = true ↔ ∀ k, k ∈ a ↔ k ∈ b := by
  simp only [keysEq, Bool.and_eq_true, List.all_eq_true, List.contains_iff_mem]
  constructor
  · rintro ⟨h1, h2⟩ k; exact ⟨h1 k, h2 k⟩
  · intro h; exact ⟨fun k hk => (h k).mp hk, fun k hk => (h k).mpr hk⟩

theorem adjAll_iff {α} {p : α → α → Bool} {R : α → α → Prop} (hR : Equivalence R)
    (hp : ∀ a b, p a b = true ↔ R a b) (l : List α) : adjAll p l = true ↔ ∀ x ∈ l, ∀ y ∈ l, R x y := by
  induction l with
  | nil => simp [adjAll]
  | cons a r ih =>
    cases r with
    | nil => simpa [adjAll] using hR.refl a
    | cons b r' =>
      rw [adjAll, Bool.and_eq_true, hp, ih]
      constructor
      · rintro ⟨hab, h⟩ x hx y hy
        have hb : ∀ z ∈ a :: b :: r', R z b := fun z hz =>
          (List.mem_cons.mp hz).elim (fun e => e ▸ hab) (fun hz => h z hz b List.mem_cons_self)
        exact hR.trans (hb x hx) (hR.symm (hb y hy))
      · intro h
        exact ⟨h a List.mem_cons_self b (by simp), fun x hx y hy =>
          h x (List.mem_cons_of_mem _ hx) y (List.mem_cons_of_mem _ hy)⟩

def SameKeys (a b : Res) : Prop :=
  (∀ k, k ∈ keys a.stats ↔ k ∈ keys b.stats) ∧ (∀ k, k ∈ keys a.arrays ↔ k ∈ keys b.arrays)

theorem keysOk_iff (rs : List Res) : keysOk rs = true ↔ ∀ x ∈ rs, ∀ y ∈ rs, SameKeys x y := by
  have E : ∀ (f : Res → List String),
      adjAll (fun a b => keysEq (f a) (f b)) rs = true ↔ ∀ x ∈ rs, ∀ y ∈ rs, ∀ k, k ∈ f x ↔ k ∈ f y := fun f =>
    adjAll_iff ⟨fun _ _ => Iff.rfl, fun h k => (h k).symm, fun h1 h2 k => (h1 k).trans (h2 k)⟩
      (fun a b => keysEq_iff (f a) (f b)) rs
  unfold keysOk SameKeys
  rw [Bool.and_eq_true, E (fun r => keys r.arrays), E (fun r => keys r.stats)]
  constructor
  · rintro ⟨h1, h2⟩ x hx y hy; exact ⟨h2 x hx y hy, h1 x hx y hy⟩
  · intro h; exact ⟨fun x hx y hy => (h x hx y hy).2, fun x hx y hy => (h x hx y hy).1⟩

theorem average_iff (first : Res) (rest : List Res) :
    average (first :: rest) = true ↔
      ∀ r ∈ rest, ∀ k ∈ keys first.arrays, (arr r k).length = (arr first k).length := by
  rw [average, adjAll_iff (R := fun a b => sizes (keys first.arrays) a = sizes (keys first.arrays) b)
    ⟨fun _ => rfl, Eq.symm, Eq.trans⟩ (fun _ _ => beq_iff_eq)]
  -- equal size lists for any two results = every result has the sizes of the first
  simp only [sizes, List.map_inj_left]
  constructor
  · intro h r hr
    exact h r (List.mem_cons_of_mem _ hr) first List.mem_cons_self
  · intro h x hx y hy k hk
    have hf : ∀ z ∈ first :: rest, (arr z k).length = (arr first k).length := fun z hz =>
      (List.mem_cons.mp hz).elim (fun e => e ▸ rfl) (fun hz => h z hz k hk)
    rw [hf x hx, hf y hy]

theorem foldl_addStats (rest : List Res) (d : Dict Rat) :
    rest.foldl addStats d = d.map fun p => (p.1, p.2 + (rest.map fun r => stat r p.1).sum) := by
  induction rest generalizing d with
  | nil => simp
  | cons r rest ih => simp [ih, addStats, add_assoc]

theorem foldl_addArrays_append (rest : List Res) (d : Dict (List Rat)) :
    rest.foldl (addArrays false) d = d.map fun p => (p.1, p.2 ++ (rest.map fun r => arr r p.1).flatten) := by
  induction rest generalizing d with
  | nil => simp
  | cons r rest ih => simp [ih, addArrays]

theorem foldl_addArrays_avg (rest : List Res) (d : Dict (List Rat)) :
    rest.foldl (addArrays true) d = d.map fun p => (p.1, (rest.map fun r => arr r p.1).foldl addL p.2) := by
  induction rest generalizing d with
  | nil => simp
  | cons r rest ih => simp [ih, addArrays]

theorem addL_eq_zipWith (a b : List Rat) : addL a b = List.zipWith (· + ·) a b := by
  induction a generalizing b with
  | nil => cases b <;> rfl
  | cons x a ih =>
    cases b with
    | nil => rfl
    | cons y b => rw [addL, ih]; rfl

theorem addL_length (a b : List Rat) (h : b.length = a.length) : (addL a b).length = a.length := by
  rw [addL_eq_zipWith, List.length_zipWith, h, Nat.min_self]

theorem addL_getD (a b : List Rat) (h : b.length = a.length) (i : Nat) :
    (addL a b).getD i 0 = a.getD i 0 + b.getD i 0 := by
  rw [addL_eq_zipWith]
  rcases Nat.lt_or_ge i a.length with hi | hi
  · simp [hi, h ▸ hi]
  · simp [hi, h ▸ hi]

theorem foldl_addL_length (a : List Rat) (bs : List (List Rat)) (h : ∀ b ∈ bs, b.length = a.length) :
    (bs.foldl addL a).length = a.length := by
  induction bs generalizing a with
  | nil => rfl
  | cons b bs ih =>
    obtain ⟨hb, hbs⟩ := List.forall_mem_cons.mp h
    have hl := addL_length a b hb
    rw [List.foldl_cons, ih (addL a b) (fun c hc => (hbs c hc).trans hl.symm), hl]

theorem foldl_addL_getD (a : List Rat) (bs : List (List Rat)) (h : ∀ b ∈ bs, b.length = a.length) (i : Nat) :
    (bs.foldl addL a).getD i 0 = a.getD i 0 + (bs.map fun b => b.getD i 0).sum := by
  induction bs generalizing a with
  | nil => simp
  | cons b bs ih =>
    obtain ⟨hb, hbs⟩ := List.forall_mem_cons.mp h
    rw [List.foldl_cons, ih (addL a b) (fun c hc => (hbs c hc).trans (addL_length a b hb).symm), addL_getD a b hb,
      List.map_cons, List.sum_cons, add_assoc]

theorem getD_map_div (a : List Rat) (n : Rat) (i : Nat) : (a.map fun x => x / n).getD i 0 = a.getD i 0 / n :=
  getD_map_of_default (· / n) a i 0 0 (zero_div n)

theorem keys_combine_stats (avg : Bool) (first : Res) (rest : List Res) :
    keys (combine avg first rest).stats = keys first.stats := by
  simp only [combine, foldl_addStats, keys_map_val]

theorem keys_combine_arrays (avg : Bool) (first : Res) (rest : List Res) :
    keys (combine avg first rest).arrays = keys first.arrays := by
  cases avg
  · simp only [combine, foldl_addArrays_append, Bool.false_eq_true, if_false, keys_map_val]
  · simp only [combine, foldl_addArrays_avg, if_true, keys_map_val]

theorem lookup_combine_stats (avg : Bool) (first : Res) (rest : List Res) (k : String) (hk : k ∈ keys first.stats) :
    lookup (combine avg first rest).stats k =
      some (((first :: rest).map fun r => stat r k).sum / ((rest.length + 1 : Nat) : Rat)) := by
  obtain ⟨v, hv⟩ := Option.isSome_iff_exists.mp ((lookup_isSome_iff first.stats k).mpr hk)
  simp only [combine, foldl_addStats]
  rw [lookup_map_val, lookup_map_val, hv, List.map_cons, List.sum_cons, stat, hv]
  rfl

theorem arr_combine (avg : Bool) (first : Res) (rest : List Res) (k : String) (hk : k ∈ keys first.arrays) :
    arr (combine avg first rest) k =
      if avg then ((rest.map fun r => arr r k).foldl addL (arr first k)).map fun x => x / ((rest.length + 1 : Nat) : Rat)
      else ((first :: rest).map fun r => arr r k).flatten := by
  obtain ⟨a, ha⟩ := Option.isSome_iff_exists.mp ((lookup_isSome_iff first.arrays k).mpr hk)
  have ha' : arr first k = a := by rw [arr, ha]; rfl
  rw [arr]
  cases avg
  · simp only [combine, foldl_addArrays_append, Bool.false_eq_true, if_false]
    rw [lookup_map_val, ha, List.map_cons, List.flatten_cons, ha']
    rfl
  · simp only [combine, foldl_addArrays_avg, if_true]
    rw [lookup_map_val, lookup_map_val, ha, ha']
    rfl

theorem merge_eq (first second : Res) (rest : List Res) :
    mergeResults (first :: second :: rest) =
      if keysOk (first :: second :: rest) then
        .ok (combine (average (first :: second :: rest)) first (second :: rest))
      else .error .keyMismatch := by
  simp only [mergeResults]
  cases keysOk (first :: second :: rest) <;> simp

theorem merge_ok_inv (first second : Res) (rest : List Res) (m : Res)
    (h : mergeResults (first :: second :: rest) = .ok m) :
    (∀ x ∈ first :: second :: rest, ∀ y ∈ first :: second :: rest, SameKeys x y) ∧
    m = combine (average (first :: second :: rest)) first (second :: rest) := by
  obtain ⟨hk, h⟩ := guard_ok_iff.mp h
  exact ⟨(keysOk_iff _).mp (by simpa using hk), (Except.ok.inj h).symm⟩

theorem hasDup_iff (l : List String) : hasDup l = false ↔ l.Nodup := by
  induction l with
  | nil => simp [hasDup]
  | cons x r ih => simp [hasDup, ih]

end Evo.ResultMerge
