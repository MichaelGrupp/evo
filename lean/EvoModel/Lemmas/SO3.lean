/-
Polynomial identities of SO(3) in the explicit components of `Model/Lin.lean` (used by C01, C03, C09, C14).
A proper rotation is its own cofactor matrix (`IsRot.cof`, from `M3.mul_cof_transpose`).  With `t = tr R` and the
division-free `u = (R₂₁−R₁₂, R₀₂−R₂₀, R₁₀−R₀₁)` (`2 sin θ` times the axis), the 6 + 6 orthonormality equations and the
9 cofactor equations give `R u = u`, `‖u‖² = (1 + t)(3 − t)` and Rodrigues' formula in polynomial form, by
`linear_combination` with constant coefficients found offline with sympy (a linear system over the monomials); only
Lean's check is trusted.  Over an ordered field `−1 ≤ t ≤ 3` follows from sums of squares, and the facts are restated
for `c = (t − 1)/2`, `w = u/2` (`M3.angleCore`, `M3.axisVec`).
-/
import EvoModel.Lemmas.Lin
import Mathlib.Tactic.Linarith
import Mathlib.Tactic.Positivity
namespace Evo

section field
variable {K : Type} [Field K]

/-- `2·vee((R − Rᵀ)/2)`: the (unnormalised, `2 sin θ`-scaled) rotation axis -/
def M3.axis2 (r : M3 K) : V3 K := ⟨r.a21 - r.a12, r.a02 - r.a20, r.a10 - r.a01⟩

/-- `vee((R − Rᵀ)/2)`: rotation axis scaled by `sin θ` (the vector whose squared norm is the
second component of `M3.angleCore`).  `1 + 1` as in `M3.angleCore`: Model/Lin.lean assumes only core's
operation classes (`One`, `Add`, `Div`, …), which give no numeral `2`; written alike, `M3.angleCore_snd` is `rfl`. -/
def M3.axisVec (r : M3 K) : V3 K :=
  ⟨(r.a21 - r.a12) / (1 + 1), (r.a02 - r.a20) / (1 + 1), (r.a10 - r.a01) / (1 + 1)⟩

def M3.outer (v w : V3 K) : M3 K :=
  ⟨v.x * w.x, v.x * w.y, v.x * w.z, v.y * w.x, v.y * w.y, v.y * w.z, v.z * w.x, v.z * w.y, v.z * w.z⟩

theorem M3.outer_smul (k : K) (v w : V3 K) :
    M3.outer (V3.smul k v) (V3.smul k w) = M3.smul (k * k) (M3.outer v w) := by
  ext <;> simp only [M3.smul, M3.outer, V3.smul] <;> ring

theorem M3.outer_mulVec (v w u : V3 K) : (M3.outer v w).mulVec u = V3.smul (w.dot u) v := by
  ext <;> simp only [M3.outer, M3.mulVec, V3.smul, V3.dot] <;> ring

theorem M3.outer_mul_outer (a b c d : V3 K) :
    (M3.outer a b).mul (M3.outer c d) = M3.smul (b.dot c) (M3.outer a d) := by
  ext <;> simp only [M3.outer, M3.mul, M3.smul, V3.dot] <;> ring

theorem M3.trace_outer (v w : V3 K) : (M3.outer v w).trace = v.dot w := rfl

theorem M3.axisVec_eq_vee (r : M3 K) :
    r.axisVec = M3.vee (M3.smul (1 / (1 + 1)) (r.sub r.transpose)) := by
  ext <;> simp only [M3.axisVec, M3.vee, M3.smul, M3.sub, M3.transpose] <;> ring

theorem M3.trace_one : (M3.one : M3 K).trace = 3 := by simp only [M3.trace, M3.one]; norm_num

theorem M3.angleCore_fst (r : M3 K) : r.angleCore.1 = (r.trace - 1) / (1 + 1) := rfl
theorem M3.angleCore_snd (r : M3 K) : r.angleCore.2 = r.axisVec.normSq := rfl

theorem M3.angleCore_transpose (r : M3 K) : r.transpose.angleCore = r.angleCore := by
  simp only [M3.angleCore, M3.transpose, M3.trace, V3.normSq, V3.dot]
  refine Prod.ext rfl ?_
  simp only
  ring

theorem M3.angleCore_one [CharZero K] : (M3.one : M3 K).angleCore = (1, 0) := by
  simp only [M3.angleCore, M3.one, M3.trace, V3.normSq, V3.dot]
  refine Prod.ext ?_ ?_
  · simp only; field_simp; ring
  · simp only; ring

/-- `cof R = R`, entry by entry: `cof(R)ᵀ = RᵀR·cof(R)ᵀ = Rᵀ·det R` -/
theorem IsRot.cof {r : M3 K} (h : IsRot r) :
    (r.a11 * r.a22 - r.a12 * r.a21 = r.a00 ∧ -(r.a10 * r.a22) + r.a12 * r.a20 = r.a01 ∧
      r.a10 * r.a21 - r.a11 * r.a20 = r.a02) ∧
    (-(r.a01 * r.a22) + r.a02 * r.a21 = r.a10 ∧ r.a00 * r.a22 - r.a02 * r.a20 = r.a11 ∧
      -(r.a00 * r.a21) + r.a01 * r.a20 = r.a12) ∧
    (r.a01 * r.a12 - r.a02 * r.a11 = r.a20 ∧ -(r.a00 * r.a12) + r.a02 * r.a10 = r.a21 ∧
      r.a00 * r.a11 - r.a01 * r.a10 = r.a22) := by
  have e := congrArg r.transpose.mul (M3.mul_cof_transpose r)
  rw [← M3.mul_assoc', h.1, M3.one_mul', h.2, M3.one_smul', M3.mul_one'] at e
  exact ⟨⟨congrArg M3.a00 e, congrArg M3.a10 e, congrArg M3.a20 e⟩,
    ⟨congrArg M3.a01 e, congrArg M3.a11 e, congrArg M3.a21 e⟩,
    ⟨congrArg M3.a02 e, congrArg M3.a12 e, congrArg M3.a22 e⟩⟩

theorem IsRot.mulVec_cross {r : M3 K} (h : IsRot r) (u v : V3 K) :
    r.mulVec (V3.cross u v) = V3.cross (r.mulVec u) (r.mulVec v) := by
  obtain ⟨⟨k00, k01, k02⟩, ⟨k10, k11, k12⟩, ⟨k20, k21, k22⟩⟩ := h.cof
  ext <;> simp only [M3.mulVec, V3.cross]
  · linear_combination (-(u.y * v.z - u.z * v.y)) * k00 - (u.z * v.x - u.x * v.z) * k01 - (u.x * v.y - u.y * v.x) * k02
  · linear_combination (-(u.y * v.z - u.z * v.y)) * k10 - (u.z * v.x - u.x * v.z) * k11 - (u.x * v.y - u.y * v.x) * k12
  · linear_combination (-(u.y * v.z - u.z * v.y)) * k20 - (u.z * v.x - u.x * v.z) * k21 - (u.x * v.y - u.y * v.x) * k22

theorem IsRot.mulVec_axis2 {r : M3 K} (h : IsRot r) : r.mulVec r.axis2 = r.axis2 := by
  obtain ⟨⟨_, hk01, hk02⟩, ⟨hk10, _, hk12⟩, ⟨hk20, hk21, _⟩⟩ := h.cof
  ext <;> simp only [M3.mulVec, M3.axis2]
  · linear_combination (-1) * hk12 + hk21
  · linear_combination hk02 - hk20
  · linear_combination (-1) * hk01 + hk10

/-- `4 sin²θ = 4(1 − cos²θ)`, with `t = 1 + 2 cos θ` -/
theorem IsRot.axis2_normSq {r : M3 K} (h : IsRot r) :
    r.axis2.normSq = (1 + r.trace) * (3 - r.trace) := by
  obtain ⟨⟨hk00, _, _⟩, ⟨_, hk11, _⟩, ⟨_, _, hk22⟩⟩ := h.cof
  obtain ⟨hc00, _, _, hc11, _, hc22⟩ := h.1.eqs
  simp only [M3.axis2, V3.normSq, V3.dot, M3.trace]
  linear_combination hc00 + hc11 + hc22 + 2 * hk00 + 2 * hk11 + 2 * hk22

/-- The symmetric part of Rodrigues' formula, times `1 + t = 2(1 + cos θ)` to make it polynomial. -/
theorem IsRot.rodrigues2 {r : M3 K} (h : IsRot r) :
    M3.smul (1 + r.trace) (r.add r.transpose)
      = (M3.smul ((r.trace - 1) * (r.trace + 1)) M3.one).add (M3.outer r.axis2 r.axis2) := by
  obtain ⟨⟨hk00, hk01, hk02⟩, ⟨hk10, hk11, hk12⟩, ⟨hk20, hk21, hk22⟩⟩ := h.cof
  obtain ⟨hc00, hc01, hc02, hc11, hc12, hc22⟩ := h.1.eqs
  obtain ⟨hr00, hr01, hr02, hr11, hr12, -⟩ := h.1.row_eqs
  ext <;> simp only [M3.smul, M3.add, M3.transpose, M3.one, M3.outer, M3.axis2, M3.trace]
  · linear_combination (-1) * hc11 + (-1) * hc22 + hr00 + (-2) * hk00
  · linear_combination hc01 + hr01 + (-1) * hk01 + (-1) * hk10
  · linear_combination hc02 + hr02 + (-1) * hk02 + (-1) * hk20
  · linear_combination hc01 + hr01 + (-1) * hk01 + (-1) * hk10
  · linear_combination (-1) * hc00 + (-1) * hc22 + hr11 + (-2) * hk11
  · linear_combination hc12 + hr12 + (-1) * hk12 + (-1) * hk21
  · linear_combination hc02 + hr02 + (-1) * hk02 + (-1) * hk20
  · linear_combination hc12 + hr12 + (-1) * hk12 + (-1) * hk21
  · linear_combination hc22 + (-1) * hr00 + (-1) * hr11 + (-2) * hk22

end field

-- Besides the order facts, this section holds the identities that cancel `1 + 1` (`M3.trace_of_core`,
-- `IsRot.axis_normSq` and what follows from them): `1 + 1 ≠ 0` comes with the order, not with a bare field.
section ordered
variable {K : Type} [Field K] [LinearOrder K] [IsStrictOrderedRing K]

theorem V3.normSq_nonneg (v : V3 K) : 0 ≤ v.normSq := by
  simp only [V3.normSq, V3.dot]
  exact add_nonneg (add_nonneg (mul_self_nonneg _) (mul_self_nonneg _)) (mul_self_nonneg _)

theorem V3.eq_zero_of_normSq {v : V3 K} (h : v.normSq = 0) : v = V3.zero := by
  simp only [V3.normSq, V3.dot] at h
  have hy := mul_self_nonneg v.y
  obtain ⟨hxy, hz⟩ := (add_eq_zero_iff_of_nonneg (add_nonneg (mul_self_nonneg v.x) hy) (mul_self_nonneg v.z)).mp h
  obtain ⟨hx, hy⟩ := (add_eq_zero_iff_of_nonneg (mul_self_nonneg v.x) hy).mp hxy
  exact V3.ext' (mul_self_eq_zero.mp hx) (mul_self_eq_zero.mp hy) (mul_self_eq_zero.mp hz)

theorem M3.frobSq_nonneg (a : M3 K) : 0 ≤ a.frobSq := by
  rw [M3.frobSq_eq_cols]
  exact add_nonneg (add_nonneg (V3.normSq_nonneg _) (V3.normSq_nonneg _)) (V3.normSq_nonneg _)

theorem M3.eq_zero_of_frobSq {a : M3 K} (h : a.frobSq = 0) : a = M3.zero := by
  rw [M3.frobSq_eq_cols] at h
  have n1 := V3.normSq_nonneg a.col1
  obtain ⟨h01, h2⟩ := (add_eq_zero_iff_of_nonneg (add_nonneg (V3.normSq_nonneg a.col0) n1)
    (V3.normSq_nonneg a.col2)).mp h
  obtain ⟨h0, h1⟩ := (add_eq_zero_iff_of_nonneg (V3.normSq_nonneg a.col0) n1).mp h01
  have c0 := V3.eq_zero_of_normSq h0
  have c1 := V3.eq_zero_of_normSq h1
  have c2 := V3.eq_zero_of_normSq h2
  exact M3.ext' (congrArg V3.x c0) (congrArg V3.x c1) (congrArg V3.x c2) (congrArg V3.y c0) (congrArg V3.y c1)
    (congrArg V3.y c2) (congrArg V3.z c0) (congrArg V3.z c1) (congrArg V3.z c2)

theorem IsOrtho.trace_le_three {r : M3 K} (h : IsOrtho r) : r.trace ≤ 3 := by
  have := frobSq_sub_one_of_ortho h
  have := M3.frobSq_nonneg (r.sub M3.one)
  linarith

theorem IsOrtho.eq_one_of_trace {r : M3 K} (h : IsOrtho r) (ht : r.trace = 3) : r = M3.one :=
  M3.eq_of_sub_eq_zero (M3.eq_zero_of_frobSq (by rw [frobSq_sub_one_of_ortho h, ht]; ring))

theorem IsRot.neg_one_le_trace {r : M3 K} (h : IsRot r) : -1 ≤ r.trace := by
  have e : (1 + r.trace) ^ 2 + r.axis2.normSq = 4 * (1 + r.trace) := by rw [h.axis2_normSq]; ring
  linarith [V3.normSq_nonneg r.axis2, sq_nonneg (1 + r.trace)]

theorem M3.trace_of_core {r : M3 K} {c : K} (h : r.angleCore.1 = c) : r.trace = 1 + (1 + 1) * c := by
  rw [← h, M3.angleCore_fst]; ring

theorem M3.angleCore_snd_nonneg (r : M3 K) : 0 ≤ r.angleCore.2 := V3.normSq_nonneg r.axisVec

theorem M3.axisVec_eq (r : M3 K) : r.axisVec = V3.smul (1 / (1 + 1)) r.axis2 := by
  ext <;> simp only [M3.axisVec, M3.axis2, V3.smul] <;> ring

theorem IsRot.mulVec_axis {r : M3 K} (h : IsRot r) : r.mulVec r.axisVec = r.axisVec := by
  rw [M3.axisVec_eq, M3.mulVec_smul, h.mulVec_axis2]

theorem IsRot.axis_normSq {r : M3 K} (h : IsRot r) :
    r.axisVec.normSq = 1 - ((r.trace - 1) / (1 + 1)) ^ 2 := by
  rw [M3.axisVec_eq, V3.normSq_smul, h.axis2_normSq]; ring

theorem IsRot.angleCore_eq {r : M3 K} (h : IsRot r) :
    r.angleCore.1 ^ 2 + r.angleCore.2 = 1 := by
  rw [M3.angleCore_fst, M3.angleCore_snd, h.axis_normSq]; ring

theorem IsRot.cos_range {r : M3 K} (h : IsRot r) : -1 ≤ r.angleCore.1 ∧ r.angleCore.1 ≤ 1 := by
  have ht : r.trace = 1 + (1 + 1) * r.angleCore.1 := M3.trace_of_core rfl
  constructor <;> linarith [h.neg_one_le_trace, h.1.trace_le_three]

/-- a quarter of `IsRot.rodrigues2` -/
theorem IsRot.rodrigues {r : M3 K} (h : IsRot r) :
    M3.smul ((1 + r.angleCore.1) / (1 + 1)) (r.add r.transpose)
      = (M3.smul (r.angleCore.1 * (1 + r.angleCore.1)) M3.one).add (M3.outer r.axisVec r.axisVec) := by
  have h1 : (1 + r.angleCore.1) / (1 + 1) = 1 / (1 + 1) * (1 / (1 + 1)) * (1 + r.trace) := by
    rw [M3.angleCore_fst]; ring
  have h2 : r.angleCore.1 * (1 + r.angleCore.1)
      = 1 / (1 + 1) * (1 / (1 + 1)) * ((r.trace - 1) * (r.trace + 1)) := by
    rw [M3.angleCore_fst]; ring
  rw [h1, h2, M3.axisVec_eq, M3.outer_smul, ← M3.smul_smul, ← M3.smul_smul _ _ M3.one, h.rodrigues2, M3.smul_add]

end ordered
end Evo
