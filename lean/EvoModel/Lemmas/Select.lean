/-
Lemmas about `Model/Select.lean` for C11.  Cropping, splitting and merging come down to facts about
index lists: `idsWhere` (numpy's `where`) is `List.findIdxs`, so its ids are those of the matching
elements, in increasing order; the cut points `cutsOf` increase strictly, and the slices between
non-decreasing cuts concatenate to the slice from the first cut to the last; `adjDiffs` undoes `accFrom`;
`argsortStable` is a permutation of `range n`.  The loop of `filter_by_motion` has one invariant
(`motionGo_spec`): a pose is kept iff one of the two tests holds against the last pose kept before it.
The `numpy.linspace` ids are treated in two steps: an integer envelope (`InEnvelope`) with the order and
spacing properties, and the passage from a rounding error bound to that envelope.  Nothing about
`Evo.F64.rne` is used here: the down-sampling lemmas take an arbitrary rounding function `r` with
`F64Rounding r` (relative error `2⁻⁵³` on `[1/2, 2⁵³]`, exact on naturals `< 2⁵³`);
`Lemmas/SelectF64.lean` shows that `rne!` is one.
-/
import Mathlib.Algebra.Order.Ring.Rat
import Mathlib.Data.Rat.Floor
import Mathlib.Data.List.Sort
import Mathlib.Tactic.Linarith
import Mathlib.Tactic.Ring
import EvoModel.Model.Select
import EvoModel.Lemmas.ReduceIds
import EvoModel.Lemmas.ListAux
import EvoModel.Lemmas.Except
namespace Evo.Select
open Evo

theorem reduceIds_nil_ids {α} (l : List α) : reduceIds l [] = [] := rfl

theorem idsWhere_eq_findIdxs (p : Rat → Bool) (l : List Rat) (k : Nat) : idsWhere p l k = l.findIdxs p k := by
  induction l generalizing k with
  | nil => rfl
  | cons x r ih => rw [idsWhere, ih, List.findIdxs_cons]

theorem mem_idsWhere (p : Rat → Bool) (l : List Rat) (c : Nat) :
    c ∈ idsWhere p l 0 ↔ ∃ (h : c < l.length), p l[c] = true := by
  rw [idsWhere_eq_findIdxs]
  exact List.mem_findIdxs_iff_exists_getElem_pos

theorem idsWhere_pairwise (p : Rat → Bool) (l : List Rat) (k : Nat) :
    (idsWhere p l k).Pairwise (· < ·) :=
  idsWhere_eq_findIdxs p l k ▸ List.pairwise_findIdxs

theorem cropIds_spec (ts : List Rat) (s e : Option Rat) (ids : List Nat)
    (h : cropIds ts s e = .ok ids) :
    ∃ t0, ts.head? = some t0 ∧
      ids = idsWhere (fun t => decide (s.getD t0 ≤ t) && decide (t ≤ e.getD (ts.getLastD t0))) ts 0 ∧
      s.getD t0 ≤ e.getD (ts.getLastD t0) := by
  cases ts with
  | nil => cases h
  | cons t0 r =>
    obtain ⟨hlt, h⟩ := guard_ok_iff.mp h
    exact ⟨t0, rfl, (Except.ok.inj h).symm, not_lt.mp hlt⟩

theorem accFrom_eq_cons (a : Rat) (lens : List Rat) : accFrom a lens = a :: (accFrom a lens).tail := by
  cases lens <;> rfl

theorem adjDiffs_accFrom (a : Rat) (lens : List Rat) : adjDiffs (accFrom a lens) = lens := by
  induction lens generalizing a with
  | nil => rfl
  | cons s r ih =>
    rw [accFrom, accFrom_eq_cons, adjDiffs, ← accFrom_eq_cons, ih, add_sub_cancel_left]

theorem accFrom_length (a : Rat) (lens : List Rat) : (accFrom a lens).length = lens.length + 1 := by
  induction lens generalizing a with
  | nil => simp [accFrom]
  | cons s r ih => simp [accFrom, ih]

theorem adjDiffs_eq_zipWith (l : List Rat) : adjDiffs l = List.zipWith (fun a b => b - a) l l.tail :=
  eq_zipWith_tail rfl (fun _ => rfl) (fun _ _ _ => rfl) l

theorem adjDiffs_length (l : List Rat) : (adjDiffs l).length = l.length - 1 := by
  rw [adjDiffs_eq_zipWith, length_zipWith_tail]

theorem adjDiffs_getElem (l : List Rat) (k : Nat) (h : k + 1 < l.length) :
    (adjDiffs l)[k]'(by rw [adjDiffs_length]; omega) = l[k + 1] - l[k] := by
  simp [adjDiffs_eq_zipWith]

theorem speedsGo_length (ls ds v : List Rat) (h : speedsGo ls ds = .ok v) :
    v.length = min ls.length ds.length := by
  induction ls generalizing ds v with
  | nil => cases h; simp
  | cons x xs ih =>
    cases ds with
    | nil => cases h; simp
    | cons y ys =>
      rw [speedsGo] at h
      split_ifs at h
      split at h
      · cases h
      · next r hr => cases h; simp [ih ys r hr]

theorem slice_append {α} (l : List α) (a b c : Nat) (hab : a ≤ b) (hbc : b ≤ c) :
    slice l a b ++ slice l b c = slice l a c := by
  unfold slice
  rw [← List.take_append_drop (b - a) ((l.take c).drop a), List.take_drop, List.drop_drop, List.take_take,
    Nat.add_sub_of_le hab, Nat.min_eq_left hbc]

theorem slices_flatten {α} (l : List α) (a : Nat) (cuts : List Nat)
    (h : (a :: cuts).Pairwise (· ≤ ·)) :
    (slices l (a :: cuts)).flatten = slice l a (cuts.getLastD a) := by
  induction cuts generalizing a with
  | nil => simp [slices, slice]
  | cons b r ih =>
    obtain ⟨ha, hb⟩ := List.pairwise_cons.mp h
    have hlast : b ≤ r.getLastD b := (List.mem_cons.mp List.getLastD_mem_cons).elim Eq.ge
      ((List.pairwise_cons.mp hb).1 _)
    rw [slices, List.flatten_cons, ih b hb, List.getLastD_cons]
    exact slice_append l a b _ (ha b List.mem_cons_self) hlast

theorem slice_zero_length {α} (l : List α) : slice l 0 l.length = l := by
  simp [slice]

theorem mem_cutsOf_interior (thr : Rat) (steps : List Rat) (c : Nat) :
    c ∈ (idsWhere (fun s => decide (thr < s)) steps 0).map (· + 1) ↔
      ∃ k, ∃ (h : k < steps.length), c = k + 1 ∧ thr < steps[k] := by
  simp only [List.mem_map, mem_idsWhere, decide_eq_true_eq]
  constructor
  · rintro ⟨k, ⟨h, hp⟩, rfl⟩
    exact ⟨k, h, rfl, hp⟩
  · rintro ⟨k, h, rfl, hp⟩
    exact ⟨k, ⟨h, hp⟩, rfl⟩

theorem mem_cutsOf (thr : Rat) (steps : List Rat) (n c : Nat) :
    c ∈ cutsOf thr steps n ↔
      c = 0 ∨ (∃ k, ∃ (h : k < steps.length), c = k + 1 ∧ thr < steps[k]) ∨ c = n := by
  rw [cutsOf, List.mem_cons, List.mem_append, List.mem_singleton, mem_cutsOf_interior]

theorem cutsOf_pairwise (thr : Rat) (steps : List Rat) (n : Nat) (hn : steps.length < n) :
    (cutsOf thr steps n).Pairwise (· < ·) := by
  unfold cutsOf
  have hi := idsWhere_pairwise (fun s => decide (thr < s)) steps 0
  have hm : ((idsWhere (fun s => decide (thr < s)) steps 0).map (· + 1)).Pairwise (· < ·) :=
    List.pairwise_map.mpr (hi.imp (fun h => by omega))
  have hb : ∀ c ∈ (idsWhere (fun s => decide (thr < s)) steps 0).map (· + 1), 0 < c ∧ c < n := fun c hc => by
    obtain ⟨k, _, rfl, _⟩ := (mem_cutsOf_interior thr steps c).mp hc
    omega
  refine List.pairwise_cons.mpr ⟨fun c hc => ?_, List.pairwise_append.mpr ⟨hm, by simp, fun c hc d hd => ?_⟩⟩
  · rcases List.mem_append.mp hc with hc | hc
    · exact (hb c hc).1
    · rw [List.mem_singleton.mp hc]; omega
  · rw [List.mem_singleton.mp hd]
    exact (hb c hc).2

theorem no_mem_between_consecutive (l : List Nat) (h : l.Pairwise (· < ·)) (a b : Nat)
    (hab : (a, b) ∈ List.zip l l.tail) (c : Nat) (hc : c ∈ l) : ¬ (a < c ∧ c < b) := by
  obtain ⟨i, hi, e⟩ := mem_zip_tail.mp hab
  obtain ⟨rfl, rfl⟩ := Prod.mk.inj e
  obtain ⟨j, hj, rfl⟩ := List.mem_iff_getElem.mp hc
  -- values are ordered as their indices, and no index lies strictly between `i` and `i + 1`
  rw [h.sortedLT.getElem_lt_getElem_iff, h.sortedLT.getElem_lt_getElem_iff]
  omega

def IsLastKeptBefore (ids : List Nat) (p i : Nat) : Prop :=
  p ∈ ids ∧ p < i ∧ ∀ q ∈ ids, q < i → q ≤ p

/-- both tests keep the pose in the same way: the loop has two branches -/
theorem motionGo_cons (ang : Nat → Nat → Rat) (d a di : Rat) (r : List Rat) (i pid : Nat) (pd : Rat) :
    motionGo ang d a (di :: r) i pid pd =
      if d ≤ di - pd ∨ a ≤ ang pid i then i :: motionGo ang d a r (i + 1) i di
      else motionGo ang d a r (i + 1) pid pd := by
  rw [motionGo]
  by_cases h1 : d ≤ di - pd <;> by_cases h2 : a ≤ ang pid i <;> simp [h1, h2]

theorem motionGo_sublist (ang : Nat → Nat → Rat) (d a : Rat) (rest : List Rat) (i pid : Nat) (pd : Rat) :
    (motionGo ang d a rest i pid pd).Sublist (List.range' i rest.length) := by
  induction rest generalizing i pid pd with
  | nil => exact .slnil
  | cons di r ih =>
    rw [motionGo_cons, List.length_cons, List.range'_succ]
    split
    · exact (ih _ _ _).cons_cons i
    · exact (ih _ _ _).cons i

theorem motionGo_ge (ang : Nat → Nat → Rat) (d a : Rat) (rest : List Rat) (i pid : Nat) (pd : Rat) :
    ∀ c ∈ motionGo ang d a rest i pid pd, i ≤ c ∧ c < i + rest.length :=
  fun _ hc => List.mem_range'_1.mp ((motionGo_sublist ang d a rest i pid pd).subset hc)

/-- the invariant of the loop of `filter_by_motion`; `val j` is the accumulated distance of pose `j` -/
theorem motionGo_spec (ang : Nat → Nat → Rat) (d a : Rat) (val : Nat → Rat)
    (rest : List Rat) (i pid : Nat) (pd : Rat)
    (hval : ∀ k, ∀ (h : k < rest.length), rest[k] = val (i + k)) (hpd : pd = val pid) (hpid : pid < i)
    (j p : Nat) (hj : i ≤ j) (hj2 : j < i + rest.length)
    (hp : IsLastKeptBefore (pid :: motionGo ang d a rest i pid pd) p j) :
    j ∈ motionGo ang d a rest i pid pd ↔ (d ≤ val j - val p ∨ a ≤ ang p j) := by
  induction rest generalizing i pid pd with
  | nil => simp at hj2; omega
  | cons di r ih =>
    obtain rfl : di = val i := by simpa using hval 0 (Nat.zero_lt_succ _)
    have hval' : ∀ k, ∀ (h : k < r.length), r[k] = val (i + 1 + k) := fun k hk => by
      rw [Nat.add_right_comm]; exact hval (k + 1) (Nat.succ_lt_succ hk)
    have hj2' : j < i + 1 + r.length := by rw [List.length_cons] at hj2; omega
    subst hpd
    obtain ⟨hpm, hplt, hpmax⟩ := hp
    rcases Nat.eq_or_lt_of_le hj with rfl | hij
    · -- the current index: everything the loop keeps is `≥ i`, so the last kept before it is `pid`
      obtain rfl : p = pid := (List.mem_cons.mp hpm).resolve_right fun h =>
        absurd (motionGo_ge _ _ _ _ _ _ _ p h).1 (by omega)
      rw [motionGo_cons]
      split_ifs with hT
      · simp [hT]
      · exact iff_of_false (fun hm => by have := (motionGo_ge _ _ _ _ _ _ _ i hm).1; omega) hT
    · rw [motionGo_cons] at hpm hpmax ⊢
      split_ifs at hpm hpmax ⊢ with hT
      · -- `i` is kept: it is the new `pid`, and `p ≥ i`
        have hip : i ≤ p := hpmax i (by simp) hij
        have hpm' := (List.mem_cons.mp hpm).resolve_left (by omega : p ≠ pid)
        rw [List.mem_cons, ← ih (i + 1) i (val i) hval' rfl (by omega) hij hj2'
          ⟨hpm', hplt, fun q hq => hpmax q (List.mem_cons_of_mem _ hq)⟩]
        exact or_iff_right (by omega)
      · exact ih (i + 1) pid (val pid) hval' rfl (by omega) hij hj2' ⟨hpm, hplt, hpmax⟩

theorem argsortStable_perm (s : List Rat) : (argsortStable s).Perm (List.range s.length) := by
  have h := (List.mergeSort_perm s.zipIdx (fun a b => decide (a.1 ≤ b.1))).map (·.2)
  rwa [List.zipIdx_map_snd, ← List.range_eq_range'] at h

theorem argsortStable_lt (s : List Rat) : ∀ i ∈ argsortStable s, i < s.length := by
  intro i hi
  exact List.mem_range.mp ((argsortStable_perm s).mem_iff.mp hi)

theorem reduceIds_argsort (s : List Rat) :
    reduceIds s (argsortStable s)
      = (s.zipIdx.mergeSort (fun a b => decide (a.1 ≤ b.1))).map (·.1) := by
  unfold argsortStable reduceIds
  rw [List.filterMap_map, ← List.filterMap_eq_map]
  -- a sorted pair `(x, i)` is still a pair of `s.zipIdx`: `s[i]? = some x`
  exact List.filterMap_congr fun p hp => List.mem_zipIdx_iff_getElem?.mp (List.mem_mergeSort.mp hp)

/-! ### `numpy.linspace` ids: integer envelope -/

/-- the envelope of ids that any correctly rounded evaluation of `⌊k·(a/b)⌋` can produce
(`a = n − 1`, `b = N − 1`): the exact floor, or one below it where `k·a/b` is an integer although
`a/b` is not -/
def InEnvelope (a b k i : Nat) : Prop :=
  i = k * a / b ∨ (b ∣ k * a ∧ ¬ b ∣ a ∧ i + 1 = k * a / b)

theorem envelope_zero (a b i : Nat) (h : InEnvelope a b 0 i) : i = 0 := by
  rcases h with h | ⟨_, _, h⟩
  · simpa using h
  · simp at h

theorem envelope_dev (a b k i : Nat) (hb : 0 < b) (h : InEnvelope a b k i) :
    i * b ≤ k * a ∧ k * a ≤ (i + 1) * b := by
  have h1 := Nat.div_mul_le_self (k * a) b
  have h2 := Nat.lt_div_mul_add (a := k * a) hb
  rcases h with h | ⟨hd, _, h⟩
  · subst h
    refine ⟨h1, ?_⟩
    rw [Nat.add_mul, Nat.one_mul]; exact Nat.le_of_lt h2
  · have hqb : k * a / b * b = k * a := Nat.div_mul_cancel hd
    have hle : i * b ≤ (i + 1) * b := Nat.mul_le_mul_right b (Nat.le_succ i)
    rw [h, hqb] at hle
    refine ⟨hle, ?_⟩
    rw [h, hqb]

theorem envelope_gap (a b k i j : Nat) (hb : 0 < b)
    (hi : InEnvelope a b k i) (hj : InEnvelope a b (k + 1) j) :
    i + a / b ≤ j ∧ j ≤ i + a / b + (if b ∣ a then 0 else 1) := by
  have hx : (k + 1) * a = k * a + a := by rw [Nat.add_mul, Nat.one_mul]
  have hdiv := Nat.add_div (a := k * a) (b := a) hb
  have hmod := Nat.add_mod (k * a) a b
  have hrx := Nat.mod_lt (k * a) hb
  have hra := Nat.mod_lt a hb
  unfold InEnvelope at hi hj
  rw [hx] at hj
  simp only [Nat.dvd_iff_mod_eq_zero] at hi hj ⊢
  -- the remainders of `k·a` and `a` carry or not; the quotients and remainders by `b` are atoms for `omega`
  by_cases hc : b ≤ k * a % b + a % b
  · rw [if_pos hc] at hdiv
    split_ifs <;> omega
  · rw [if_neg hc] at hdiv
    rw [Nat.mod_eq_of_lt (Nat.lt_of_not_le hc)] at hmod
    split_ifs <;> omega

/-! ### `numpy.linspace` ids: from the rounding error bound to the envelope -/

/-- all that the down-sampling theorems use of the binary64 rounding function: a hypothesis here, proved of
`F64.rne!` in `Lemmas/SelectF64.lean` (`f64Rounding_rne`) -/
structure F64Rounding (r : Rat → Rat) : Prop where
  rel_err : ∀ x : Rat, 1 / 2 ≤ x → x ≤ 2 ^ 53 → |r x - x| ≤ x / 2 ^ 53
  exact_nat : ∀ m : Nat, m < 2 ^ 53 → r (m : Rat) = (m : Rat)

theorem floorNat_def (z : ℚ) : floorNat z = ⌊z⌋.toNat := rfl

theorem floorNat_natCast (m : Nat) : floorNat (m : Rat) = m := by
  rw [floorNat_def, Int.floor_natCast, Int.toNat_natCast]

theorem floorNat_of_near (z : ℚ) (m b : ℕ) (hb : 0 < b) (h : |z * b - m| < 1) :
    floorNat z = m / b ∨ (b ∣ m ∧ floorNat z + 1 = m / b) := by
  obtain ⟨h1, h2⟩ := abs_lt.mp h
  have hb0 : (0 : ℚ) < b := by exact_mod_cast hb
  have hm : (b : ℚ) * (m / b : ℕ) + (m % b : ℕ) = m := by exact_mod_cast Nat.div_add_mod m b
  have hρ : ((m % b : ℕ) : ℚ) + 1 ≤ b := by exact_mod_cast Nat.mod_lt m hb
  rw [floorNat_def, Nat.dvd_iff_mod_eq_zero]
  generalize m / b = q at *
  generalize m % b = ρ at *
  -- `m = b·q + ρ` with `ρ < b`: `q − 1 < z < q + 1`, and `q ≤ z` unless `ρ = 0`
  have hlo : (q : ℚ) - 1 < z := lt_of_mul_lt_mul_right (by linarith) hb0.le
  have hhi : z < (q : ℚ) + 1 := lt_of_mul_lt_mul_right (by linarith) hb0.le
  by_cases hq : (q : ℚ) ≤ z
  · left
    rw [Int.floor_eq_iff.mpr ⟨by exact_mod_cast hq, by exact_mod_cast hhi⟩, Int.toNat_natCast]
  · have hf : ⌊z⌋ = (q : ℤ) - 1 := Int.floor_eq_iff.mpr ⟨by push_cast; exact hlo.le, by push_cast; linarith⟩
    have hρ0 : ρ = 0 := by
      by_contra hne
      have : (1 : ℚ) ≤ ρ := by exact_mod_cast Nat.one_le_iff_ne_zero.mpr hne
      exact hq (le_of_mul_le_mul_right (by linarith) hb0)
    omega

/-- rounding `s`, multiplying by `k` and rounding again costs at most three relative errors `2⁻⁵³` -/
theorem round_mul_round_close (r : Rat → Rat) (hr : F64Rounding r) (s k : ℚ) (hs : 1 ≤ s) (hk : 1 ≤ k)
    (hX : 3 * (k * s) ≤ 2 ^ 53) : |r (k * r s) - k * s| ≤ 3 * (k * s) / 2 ^ 53 := by
  have hk0 : 0 ≤ k := zero_le_one.trans hk
  have hsX : s ≤ k * s := le_mul_of_one_le_left (zero_le_one.trans hs) hk
  obtain ⟨l1, u1⟩ := abs_le.mp (hr.rel_err s (le_trans (by norm_num) hs) (by linarith))
  -- `y = k·r(s)` lies within `X/2⁵³` of `X = k·s`, in particular in the range of `rel_err`
  have l1' := mul_le_mul_of_nonneg_left l1 hk0
  have u1' := mul_le_mul_of_nonneg_left u1 hk0
  obtain ⟨l2, u2⟩ := abs_le.mp (hr.rel_err (k * r s) (by linarith) (by linarith))
  exact abs_le.mpr ⟨by linarith, by linarith⟩

theorem floorNat_round_zero_mul (r : Rat → Rat) (hr : F64Rounding r) (x : ℚ) :
    floorNat (r (((0 : ℕ) : ℚ) * x)) = 0 := by
  rw [Nat.cast_zero, zero_mul, ← Nat.cast_zero, hr.exact_nat 0 (by norm_num), floorNat_natCast]

theorem linspace_id_in_envelope (r : Rat → Rat) (hr : F64Rounding r) (a b k : Nat)
    (hb : 1 ≤ b) (hba : b < a) (hkb : k < b) (hsz : 3 * a * b < 2 ^ 53) :
    InEnvelope a b k (floorNat (r ((k : Rat) * r ((a : Rat) / (b : Rat))))) := by
  have hb0 : (0 : ℚ) < b := by exact_mod_cast hb
  have ha3 : 3 * a < 2 ^ 53 := lt_of_le_of_lt (Nat.le_mul_of_pos_right _ hb) hsz
  by_cases hdvd : b ∣ a
  · -- integer step: both roundings are exact
    obtain ⟨m, rfl⟩ := hdvd
    have hkm : k * m ≤ b * m := Nat.mul_le_mul_right m hkb.le
    have hm : m ≤ b * m := Nat.le_mul_of_pos_left m hb
    left
    rw [Nat.cast_mul, mul_div_cancel_left₀ _ hb0.ne', hr.exact_nat m (by omega), ← Nat.cast_mul,
      hr.exact_nat _ (by omega), floorNat_natCast, Nat.mul_left_comm, Nat.mul_div_cancel_left _ hb]
  · rcases Nat.eq_zero_or_pos k with rfl | hk
    · left
      rw [floorNat_round_zero_mul r hr, Nat.zero_mul, Nat.zero_div]
    · -- `z·b` is within `3·k·a/2⁵³ < 1` of `k·a`
      have hs : (a : ℚ) / b * b = a := div_mul_cancel₀ _ hb0.ne'
      have hk1 : (1 : ℚ) ≤ k := by exact_mod_cast hk
      have hka : (k : ℚ) * a < b * a := by exact_mod_cast Nat.mul_lt_mul_of_pos_right hkb (by omega : 0 < a)
      have hsz' : (3 : ℚ) * a * b < 2 ^ 53 := by exact_mod_cast hsz
      have ha3' : (3 : ℚ) * a < 2 ^ 53 := by exact_mod_cast ha3
      have hXb : (k : ℚ) * (a / b) * b = k * a := by rw [mul_assoc, hs]
      have hXa : (k : ℚ) * (a / b) ≤ a := le_of_mul_le_mul_right (by linarith) hb0
      have hc := round_mul_round_close r hr (a / b) k ((one_le_div₀ hb0).mpr (by exact_mod_cast hba.le)) hk1
        (by linarith)
      have := floorNat_of_near (r (k * r (a / b))) (k * a) b hb (by
        rw [Nat.cast_mul, ← hXb, ← sub_mul, abs_mul, abs_of_pos hb0]
        calc _ ≤ 3 * ((k : ℚ) * (a / b)) / 2 ^ 53 * b := mul_le_mul_of_nonneg_right hc hb0.le
          _ = 3 * (k * a) / 2 ^ 53 := by rw [← hXb]; ring
          _ < 1 := by rw [div_lt_one (by norm_num)]; linarith)
      exact this.imp id fun ⟨h1, h2⟩ => ⟨h1, hdvd, h2⟩

theorem linspaceIdsWith_of_two_le (r : Rat → Rat) (n N : Nat) (hN : 2 ≤ N) :
    linspaceIdsWith r n N = (List.range (N - 1)).map (fun (k : Nat) =>
      floorNat (r ((k : Rat) * r (((n - 1 : Nat) : Rat) / ((N - 1 : Nat) : Rat))))) ++ [n - 1] := by
  rw [linspaceIdsWith, if_neg (by omega), if_neg (by omega)]

theorem linspaceIdsWith_length (r : Rat → Rat) (n N : Nat) : (linspaceIdsWith r n N).length = N := by
  match N with
  | 0 => rfl
  | 1 => rfl
  | N + 2 =>
    rw [linspaceIdsWith_of_two_le r n _ (by omega), List.length_append, List.length_map, List.length_range]
    rfl

theorem linspaceIdsWith_last (r : Rat → Rat) (n N : Nat) (hN : 2 ≤ N) :
    (linspaceIdsWith r n N)[N - 1]? = some (n - 1) := by
  rw [linspaceIdsWith_of_two_le r n N hN, List.getElem?_append_right (by simp)]
  simp

theorem linspaceIdsWith_lt (r : Rat → Rat) (n N k : Nat) (hN : 2 ≤ N) (hk : k < N - 1) :
    (linspaceIdsWith r n N)[k]? =
      some (floorNat (r ((k : Rat) * r (((n - 1 : Nat) : Rat) / ((N - 1 : Nat) : Rat))))) := by
  rw [linspaceIdsWith_of_two_le r n N hN, List.getElem?_append_left (by simpa using hk)]
  simp [hk]

theorem linspaceIdsWith_first (r : Rat → Rat) (hr : F64Rounding r) (n N : Nat) (hN : 1 ≤ N) :
    (linspaceIdsWith r n N)[0]? = some 0 := by
  rcases Nat.eq_or_lt_of_le hN with rfl | hN2
  · rfl
  · rw [linspaceIdsWith_lt r n N 0 hN2 (by omega), floorNat_round_zero_mul r hr]

end Evo.Select
