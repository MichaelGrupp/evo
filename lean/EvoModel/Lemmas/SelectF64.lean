/-
Discharges the rounding hypothesis of the C11 down-sampling theorems for evo's actual rounding:
`F64Rounding Evo.F64.rne!`, from the error bound and the fixed points of `rne` in `Lemmas/F64.lean`
(`rne_err_normal`, `rne_id`). Nothing about `rne` is assumed here.
-/
import EvoModel.Lemmas.Select
import EvoModel.Lemmas.F64
namespace Evo.Select
open Evo.F64

/-- on `[1/2, 2⁵³]` nothing overflows and the exponent is normal, so the relative error is `2⁻⁵³` -/
theorem rne_rel_err (x : ℚ) (h1 : 1 / 2 ≤ x) (h2 : x ≤ 2 ^ 53) : |rne! x - x| ≤ x / 2 ^ 53 := by
  have hx : |x| = x := abs_of_nonneg (by linarith)
  obtain ⟨r, hr⟩ := Option.isSome_iff_exists.mp
    (rne_isSome_of_abs_le x (by rw [hx]; exact h2.trans (two_pow_le_closeBound (by norm_num))))
  have hnormal : (2 : ℚ) ^ (-1022 : ℤ) ≤ |x| := by
    refine le_trans ?_ (hx ▸ h1)
    rw [one_div, ← zpow_neg_one]; exact zpow_le_zpow_right₀ (by norm_num) (by norm_num)
  have := rne_err_normal x r hr hnormal
  rw [hx] at this
  rwa [rne!, hr, Option.getD_some]

theorem rne_exact_nat (m : ℕ) (h : m < 2 ^ 53) : rne! (m : ℚ) = (m : ℚ) := by
  rw [rne!, rne_id _ (isF64_nat m h)]; rfl

theorem f64Rounding_rne : F64Rounding F64.rne! := ⟨rne_rel_err, rne_exact_nat⟩

end Evo.Select
