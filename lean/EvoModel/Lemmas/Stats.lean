/-
What C12 needs about `Model/Stats.lean`.  The rational statistics: the model's own `sum` is identified
with `List.sum` (`sum_eq`) and its running minimum and maximum with `List.min`/`List.max` (`minL_eq_min`,
`maxL_eq_max`), so that what the library proves about those holds of them; `sort l` is the sorted
permutation of `l`, whichever algorithm produces it.
Besides: the enumerations `U.all`/`Rel.all` of Gen/Units.lean list every unit, which turns C12's sweeps
over the unit tables into statements about all units; lengths and entries of the `secondsFromStart` and
`stepSq` arrays of a result.
-/
import EvoModel.Model.Stats
import EvoModel.Lemmas.ListAux
import Mathlib.Algebra.Order.Ring.Rat
import Mathlib.Algebra.Order.Field.Basic
import Mathlib.Algebra.Order.BigOperators.Group.List
import Mathlib.Algebra.BigOperators.Ring.List
import Mathlib.Tactic.Linarith
import Mathlib.Tactic.Ring
import Mathlib.Tactic.FieldSimp
namespace Evo.Stats
open Evo

@[simp] theorem sum_nil : sum [] = 0 := rfl
@[simp] theorem sum_cons (x : Rat) (l : List Rat) : sum (x :: l) = x + sum l := rfl

theorem sum_eq (l : List Rat) : sum l = l.sum := by
  induction l with
  | nil => rfl
  | cons x r ih => rw [sum_cons, ih, List.sum_cons]

theorem sum_ge_of_forall_ge (a : Rat) (l : List Rat) (h : ∀ x ∈ l, a ≤ x) :
    a * (l.length : Rat) ≤ sum l := by
  rw [sum_eq, mul_comm, ← nsmul_eq_mul]
  exact List.card_nsmul_le_sum l a h

theorem sum_le_of_forall_le (a : Rat) (l : List Rat) (h : ∀ x ∈ l, x ≤ a) :
    sum l ≤ a * (l.length : Rat) := by
  rw [sum_eq, mul_comm, ← nsmul_eq_mul]
  exact List.sum_le_card_nsmul l a h

theorem sum_nonneg (l : List Rat) (h : ∀ x ∈ l, 0 ≤ x) : 0 ≤ sum l :=
  sum_eq l ▸ List.sum_nonneg h

theorem sum_map_mul (k : Rat) (l : List Rat) : sum (l.map (k * ·)) = k * sum l := by
  rw [sum_eq, sum_eq, List.sum_map_mul_left, List.map_id']

theorem length_pos_cast {l : List Rat} (h : l ≠ []) : (0 : Rat) < (l.length : Rat) := by
  have : 0 < l.length := List.length_pos_of_ne_nil h
  exact_mod_cast this

theorem sum_sq_dev (m : Rat) (l : List Rat) :
    sum ((l.map fun x => x - m).map fun x => x * x) = sse l - 2 * m * sum l + (l.length : Rat) * (m * m) := by
  induction l with
  | nil => simp [sse]
  | cons x r ih =>
    simp only [List.map_cons, sum_cons, List.length_cons, Nat.cast_add, Nat.cast_one, sse] at ih ⊢
    rw [ih]; ring

theorem sse_nonneg (l : List Rat) : 0 ≤ sse l := by
  unfold sse
  apply sum_nonneg
  intro y hy
  obtain ⟨x, _, rfl⟩ := List.mem_map.mp hy
  exact mul_self_nonneg x

theorem meanSq_nonneg (l : List Rat) : 0 ≤ meanSq l := by
  unfold meanSq
  exact div_nonneg (sse_nonneg l) (Nat.cast_nonneg _)

theorem var_nonneg (l : List Rat) : 0 ≤ var l := by
  unfold var
  exact meanSq_nonneg _

theorem minFrom_eq_foldl (m : Rat) (l : List Rat) : minFrom m l = l.foldl min m := by
  induction l generalizing m with
  | nil => rfl
  | cons y r ih => rw [minFrom, ← min_def_lt, min_comm, ih, List.foldl_cons]

theorem maxFrom_eq_foldl (m : Rat) (l : List Rat) : maxFrom m l = l.foldl max m := by
  induction l generalizing m with
  | nil => rfl
  | cons y r ih => rw [maxFrom, ← max_def_lt, ih, List.foldl_cons]

theorem minL_eq_min {l : List Rat} (h : l ≠ []) : minL l = l.min h := by
  cases l with
  | nil => exact absurd rfl h
  | cons a r => exact minFrom_eq_foldl a r

theorem maxL_eq_max {l : List Rat} (h : l ≠ []) : maxL l = l.max h := by
  cases l with
  | nil => exact absurd rfl h
  | cons a r => exact maxFrom_eq_foldl a r

theorem minL_le {l : List Rat} {x : Rat} (hx : x ∈ l) : minL l ≤ x :=
  minL_eq_min (List.ne_nil_of_mem hx) ▸ List.min_le_of_mem hx

theorem le_maxL {l : List Rat} {x : Rat} (hx : x ∈ l) : x ≤ maxL l :=
  maxL_eq_max (List.ne_nil_of_mem hx) ▸ List.le_max_of_mem hx

theorem minL_mem {l : List Rat} (h : l ≠ []) : minL l ∈ l := minL_eq_min h ▸ List.min_mem h

theorem maxL_mem {l : List Rat} (h : l ≠ []) : maxL l ∈ l := maxL_eq_max h ▸ List.max_mem h

theorem sort_perm (l : List Rat) : (sort l).Perm l := List.mergeSort_perm l _

theorem sort_length (l : List Rat) : (sort l).length = l.length := (sort_perm l).length_eq

theorem mem_sort {l : List Rat} {x : Rat} : x ∈ sort l ↔ x ∈ l := (sort_perm l).mem_iff

theorem sort_sorted (l : List Rat) : (sort l).Pairwise (· ≤ ·) := pairwise_mergeSort_key id l

/-- `sort l` is *the* sorted permutation of `l` (whatever algorithm numpy uses) -/
theorem sort_eq_of_sorted_perm {l s : List Rat} (hs : s.Pairwise (· ≤ ·)) (hp : s.Perm l) : sort l = s :=
  List.Perm.eq_of_pairwise (le := (· ≤ ·)) (fun _ _ _ _ h1 h2 => le_antisymm h1 h2) (sort_sorted l) hs
    ((sort_perm l).trans hp.symm)

theorem sort_example : sort [3, 1, 2, 6] = [1, 2, 3, 6] := sort_eq_of_sorted_perm (by decide) (by decide)

theorem sort_getD_bounds {l : List Rat} {i : Nat} (h : i < l.length) :
    minL l ≤ (sort l).getD i 0 ∧ (sort l).getD i 0 ≤ maxL l := by
  have hi : i < (sort l).length := by rw [sort_length]; exact h
  have hm : (sort l).getD i 0 ∈ l := by
    rw [List.getD_eq_getElem?_getD, List.getElem?_eq_getElem hi]
    exact mem_sort.mp (List.getElem_mem hi)
  exact ⟨minL_le hm, le_maxL hm⟩

open Evo.Gen.Units in
theorem _root_.Evo.Gen.Units.U.mem_all (u : U) : u ∈ U.all := by cases u <;> decide
open Evo.Gen.Units in
theorem _root_.Evo.Gen.Units.Rel.mem_all (r : Rel) : r ∈ Rel.all := by cases r <;> decide

theorem secondsFromStart_length (ts : List Rat) : (secondsFromStart ts).length = ts.length := by
  cases ts <;> simp [secondsFromStart]

theorem secondsFromStart_getElem? (l : List Rat) (k : Nat) (t0 t : Rat) (h0 : l[0]? = some t0)
    (hk : l[k]? = some t) : (secondsFromStart l)[k]? = some (t - t0) := by
  cases l with
  | nil => simp at h0
  | cons a r =>
    have ha : a = t0 := by simpa using h0
    show ((a :: r).map (fun t => t - a))[k]? = some (t - t0)
    rw [List.getElem?_map, hk, ha]
    rfl

theorem stepSq_length (ps : List (V3 Rat)) : (stepSq ps).length = ps.length - 1 := by
  rw [eq_zipWith_tail (g := stepSq) (f := fun a b => V3.normSq (V3.sub b a)) rfl (fun _ => rfl) (fun _ _ _ => rfl),
    length_zipWith_tail]

end Evo.Stats
