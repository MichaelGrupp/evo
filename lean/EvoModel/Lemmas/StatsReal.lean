/-
The real numbers evo reports for the irrational statistics of `Model/Stats.lean`:
`rmse = np.sqrt(np.mean(e**2))` and `std = np.std(e)`, for exact rational data — the single
final `Real.sqrt` over the rational cores `meanSq = rmse²`, `var = std²` — together with the
ℚ lemmas on scaling every value by a conversion factor (`change_unit`) and on `std² = 0`.
-/
import EvoModel.Lemmas.Stats
import Mathlib.Analysis.Real.Sqrt
import Mathlib.Data.Rat.Cast.CharZero
import Mathlib.Data.Rat.Cast.Order
namespace Evo.Stats
open Evo

theorem mean_map_mul (k : Rat) (l : List Rat) : mean (l.map (k * ·)) = k * mean l := by
  unfold mean
  rw [sum_map_mul, List.length_map, mul_div_assoc]

theorem sse_map_mul (k : Rat) (l : List Rat) : sse (l.map (k * ·)) = k * k * sse l := by
  unfold sse
  have : (l.map (k * ·)).map (fun x => x * x) = (l.map fun x => x * x).map (k * k * ·) := by
    simp only [List.map_map]
    apply List.map_congr_left
    intro x _
    simp only [Function.comp]
    ring
  rw [this, sum_map_mul]

theorem meanSq_map_mul (k : Rat) (l : List Rat) : meanSq (l.map (k * ·)) = k * k * meanSq l := by
  unfold meanSq
  rw [sse_map_mul, List.length_map, mul_div_assoc]

theorem var_map_mul (k : Rat) (l : List Rat) : var (l.map (k * ·)) = k * k * var l := by
  simp only [var, mean_map_mul]
  have : (l.map (k * ·)).map (fun x => x - k * mean l) = (l.map fun x => x - mean l).map (k * ·) := by
    simp only [List.map_map]
    apply List.map_congr_left
    intro x _
    simp only [Function.comp]
    ring
  rw [this, meanSq_map_mul]

/-- scaling by `k ≥ 0` commutes with `min`, hence with the running minimum -/
theorem minL_map_mul (k : Rat) (hk : 0 ≤ k) (l : List Rat) : minL (l.map (k * ·)) = k * minL l := by
  cases l with
  | nil => exact (mul_zero k).symm
  | cons a r =>
    rw [List.map_cons, minL, minL, minFrom_eq_foldl, minFrom_eq_foldl, List.foldl_map]
    exact List.foldl_hom (k * ·) fun x y => (mul_min_of_nonneg x y hk).symm

theorem maxL_map_mul (k : Rat) (hk : 0 ≤ k) (l : List Rat) : maxL (l.map (k * ·)) = k * maxL l := by
  cases l with
  | nil => exact (mul_zero k).symm
  | cons a r =>
    rw [List.map_cons, maxL, maxL, maxFrom_eq_foldl, maxFrom_eq_foldl, List.foldl_map]
    exact List.foldl_hom (k * ·) fun x y => (mul_max_of_nonneg x y hk).symm

theorem sort_map_mul (k : Rat) (hk : 0 ≤ k) (l : List Rat) :
    sort (l.map (k * ·)) = (sort l).map (k * ·) := by
  apply sort_eq_of_sorted_perm
  · exact List.pairwise_map.mpr ((sort_sorted l).imp (fun h => mul_le_mul_of_nonneg_left h hk))
  · exact (sort_perm l).map _

theorem getD_map_mul (k : Rat) (s : List Rat) (i : Nat) :
    (s.map (k * ·)).getD i 0 = k * s.getD i 0 :=
  getD_map_of_default (k * ·) s i 0 0 (mul_zero k)

theorem median_map_mul (k : Rat) (hk : 0 ≤ k) (l : List Rat) :
    median (l.map (k * ·)) = k * median l := by
  simp only [median, sort_map_mul k hk, List.length_map, getD_map_mul]
  split <;> ring

theorem sse_eq_zero_iff (l : List Rat) : sse l = 0 ↔ ∀ x ∈ l, x = 0 := by
  induction l with
  | nil => simp [sse]
  | cons a r ih =>
    rw [show sse (a :: r) = a * a + sse r from rfl, add_eq_zero_iff_of_nonneg (mul_self_nonneg a) (sse_nonneg r),
      mul_self_eq_zero, ih, List.forall_mem_cons]

theorem meanSq_eq_zero_iff (l : List Rat) (h : l ≠ []) : meanSq l = 0 ↔ ∀ x ∈ l, x = 0 := by
  have hn : (l.length : Rat) ≠ 0 := ne_of_gt (length_pos_cast h)
  unfold meanSq
  rw [div_eq_zero_iff, sse_eq_zero_iff]
  simp [hn]

theorem var_eq_zero_iff (l : List Rat) (h : l ≠ []) : var l = 0 ↔ ∀ x ∈ l, x = mean l := by
  unfold var
  rw [meanSq_eq_zero_iff _ (by simpa using h)]
  constructor
  · intro hz x hx
    have := hz (x - mean l) (List.mem_map.mpr ⟨x, hx, rfl⟩)
    linarith
  · intro hz y hy
    obtain ⟨x, hx, rfl⟩ := List.mem_map.mp hy
    rw [hz x hx]; ring

/-- `rmse = np.sqrt(np.mean(np.power(e, 2)))` for the exact rational values `e` -/
noncomputable def rmseR (l : List Rat) : ℝ := Real.sqrt ((meanSq l : ℚ) : ℝ)

/-- `std = np.std(e)` (population standard deviation) for the exact rational values `e` -/
noncomputable def stdR (l : List Rat) : ℝ := Real.sqrt ((var l : ℚ) : ℝ)

theorem meanSq_cast_nonneg (l : List Rat) : (0 : ℝ) ≤ ((meanSq l : ℚ) : ℝ) :=
  Rat.cast_nonneg.mpr (meanSq_nonneg l)

theorem var_cast_nonneg (l : List Rat) : (0 : ℝ) ≤ ((var l : ℚ) : ℝ) :=
  Rat.cast_nonneg.mpr (var_nonneg l)

theorem rmseR_nonneg (l : List Rat) : 0 ≤ rmseR l := Real.sqrt_nonneg _
theorem stdR_nonneg (l : List Rat) : 0 ≤ stdR l := Real.sqrt_nonneg _

theorem rmseR_sq (l : List Rat) : rmseR l ^ 2 = ((meanSq l : ℚ) : ℝ) :=
  Real.sq_sqrt (meanSq_cast_nonneg l)

theorem stdR_sq (l : List Rat) : stdR l ^ 2 = ((var l : ℚ) : ℝ) :=
  Real.sq_sqrt (var_cast_nonneg l)

theorem sqrt_cast_mul_self_mul (k q : Rat) (hk : 0 ≤ k) :
    Real.sqrt (((k * k * q : ℚ)) : ℝ) = (k : ℝ) * Real.sqrt (q : ℝ) := by
  have hk' : (0 : ℝ) ≤ (k : ℝ) := Rat.cast_nonneg.mpr hk
  push_cast
  rw [Real.sqrt_mul (mul_self_nonneg _), Real.sqrt_mul_self hk']

theorem rmseR_map_mul (k : Rat) (hk : 0 ≤ k) (l : List Rat) :
    rmseR (l.map (k * ·)) = (k : ℝ) * rmseR l := by
  unfold rmseR
  rw [meanSq_map_mul, sqrt_cast_mul_self_mul k _ hk]

theorem stdR_map_mul (k : Rat) (hk : 0 ≤ k) (l : List Rat) :
    stdR (l.map (k * ·)) = (k : ℝ) * stdR l := by
  unfold stdR
  rw [var_map_mul, sqrt_cast_mul_self_mul k _ hk]

theorem stdR_eq_zero_iff (l : List Rat) : stdR l = 0 ↔ var l = 0 := by
  unfold stdR
  rw [Real.sqrt_eq_zero (var_cast_nonneg l)]
  exact Rat.cast_eq_zero

end Evo.Stats
