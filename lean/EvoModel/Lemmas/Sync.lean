/-
Lemmas about `Model/Sync.lean` for C05: the raw scan `rawGo` as a `filterMap` over the indexed driving stamps
(`rawGo_eq`), hence its members (`mem_rawMatches`: exactly the first nearest counterparts within `maxDiff`) and
their order; what `keepBest` keeps; the monotonicity of nearest counterparts in the driving stamp.
-/
import EvoModel.Model.Sync
import EvoModel.Lemmas.Argmin
import Mathlib.Data.List.Nodup
import Mathlib.Algebra.Order.Ring.Abs
import Mathlib.Tactic.Linarith
import Mathlib.Tactic.Ring
namespace Evo.Sync
open Evo

variable {s1 s2 : List Rat} {maxDiff off : Rat}

def rawAt (s2 : List Rat) (maxDiff off t : Rat) (i : Nat) : Option Match :=
  (s2[argminFirst (dist off t) s2]?).bind fun u =>
    if dist off t u ≤ maxDiff then some ⟨i, argminFirst (dist off t) s2, dist off t u⟩ else none

theorem rawGo_eq (ts : List Rat) (i0 : Nat) :
    rawGo s2 maxDiff off ts i0 = (ts.zipIdx i0).filterMap fun p => rawAt s2 maxDiff off p.1 p.2 := by
  induction ts generalizing i0 with
  | nil => rfl
  | cons t r ih =>
    rw [List.zipIdx_cons, List.filterMap_cons, ← ih]
    simp only [rawGo, rawAt]
    cases s2[argminFirst (dist off t) s2]? with
    | none => rfl
    | some u => simp only [Option.bind_some]; split <;> rfl

theorem rawAt_eq_some {t : Rat} {i : Nat} {m : Match} : rawAt s2 maxDiff off t i = some m ↔
    ∃ hj : m.j < s2.length, m.i = i ∧ m.j = argminFirst (dist off t) s2 ∧ m.d = dist off t s2[m.j] ∧
      m.d ≤ maxDiff := by
  obtain ⟨mi, mj, d⟩ := m
  simp only [rawAt, Option.bind_eq_some_iff, List.getElem?_eq_some_iff, Option.ite_none_right_eq_some,
    Option.some.injEq, Match.mk.injEq]
  constructor
  · rintro ⟨u, ⟨hj, rfl⟩, hle, rfl, rfl, rfl⟩
    exact ⟨hj, rfl, rfl, rfl, hle⟩
  · rintro ⟨hj, rfl, rfl, hd, hle⟩
    exact ⟨_, ⟨hj, rfl⟩, hd ▸ hle, rfl, rfl, hd.symm⟩

theorem mem_rawMatches {m : Match} : m ∈ rawMatches s1 s2 maxDiff off ↔
    ∃ (hi : m.i < s1.length) (hj : m.j < s2.length), m.j = argminFirst (dist off s1[m.i]) s2 ∧
      m.d = dist off s1[m.i] s2[m.j] ∧ m.d ≤ maxDiff := by
  simp only [rawMatches, rawGo_eq, List.mem_filterMap, List.mem_zipIdx_iff_getElem?, rawAt_eq_some,
    List.getElem?_eq_some_iff]
  constructor
  · rintro ⟨⟨t, i⟩, ⟨hi, ht⟩, hj, rfl, rest⟩
    exact ⟨hi, hj, ht ▸ rest⟩
  · rintro ⟨hi, hj, rest⟩
    exact ⟨(s1[m.i], m.i), ⟨hi, rfl⟩, hj, rfl, rest⟩

theorem rawMatches_fst_lt : (rawMatches s1 s2 maxDiff off).Pairwise (fun a b => a.i < b.i) := by
  rw [rawMatches, rawGo_eq, List.pairwise_filterMap]
  have h : s1.zipIdx.Pairwise (fun p q => p.2 < q.2) := by
    rw [← List.pairwise_map (f := Prod.snd), List.zipIdx_map_snd]
    exact List.pairwise_lt_range'
  refine h.imp fun {p q} hpq a ha b hb => ?_
  obtain ⟨_, hi, _⟩ := rawAt_eq_some.mp ha
  obtain ⟨_, hj, _⟩ := rawAt_eq_some.mp hb
  rw [hi, hj]; exact hpq

theorem rawMatches_fst_inj {a b : Match} (ha : a ∈ rawMatches s1 s2 maxDiff off)
    (hb : b ∈ rawMatches s1 s2 maxDiff off) (e : a.i = b.i) : a = b :=
  List.inj_on_of_nodup_map (List.pairwise_map.mpr (rawMatches_fst_lt.imp Nat.ne_of_lt)) ha hb e

theorem keepBest_sublist (raw : List Match) : (keepBest raw).Sublist raw := List.filter_sublist

theorem beats_eq_false_iff {m' m : Match} :
    beats m' m = false ↔ (m'.j = m.j → m.d ≤ m'.d ∧ (m'.d = m.d → m.i ≤ m'.i)) := by
  simp [beats]

theorem mem_keepBest {raw : List Match} {m : Match} :
    m ∈ keepBest raw ↔ m ∈ raw ∧ ∀ m' ∈ raw, beats m' m = false := by
  unfold keepBest
  simp [List.mem_filter]

theorem keepBest_snd_inj (raw : List Match) (hi : ∀ a ∈ raw, ∀ b ∈ raw, a.i = b.i → a = b)
    (a b : Match) (ha : a ∈ keepBest raw) (hb : b ∈ keepBest raw) (hj : a.j = b.j) : a = b := by
  obtain ⟨har, hab⟩ := mem_keepBest.mp ha
  obtain ⟨hbr, hba⟩ := mem_keepBest.mp hb
  obtain ⟨d1, i1⟩ := beats_eq_false_iff.mp (hab b hbr) hj.symm
  obtain ⟨d2, i2⟩ := beats_eq_false_iff.mp (hba a har) hj
  have hd : a.d = b.d := le_antisymm d1 d2
  exact hi a har b hbr (Nat.le_antisymm (i1 hd.symm) (i2 hd))

/-- of two points `x < y`, the right one is the closer to `a` iff `a` lies right of their midpoint -/
theorem abs_sub_lt_abs_sub {x y a : Rat} (h : x < y) : |y - a| < |x - a| ↔ x + y < 2 * a := by
  rw [← sq_lt_sq, ← sub_pos, show (x - a) ^ 2 - (y - a) ^ 2 = (y - x) * (2 * a - (x + y)) by ring,
    mul_pos_iff_of_pos_left (sub_pos.mpr h), sub_pos]

theorem nearest_mono {t t' u u' : Rat} (ht : t < t') (hu : u < u')
    (h : dist off t u' < dist off t u) : dist off t' u' < dist off t' u := by
  unfold dist at *
  rw [absR_eq_abs, absR_eq_abs, abs_sub_lt_abs_sub (by linarith)] at *
  linarith

end Evo.Sync
