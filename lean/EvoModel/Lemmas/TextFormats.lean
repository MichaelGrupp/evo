/-
The table reader `readTable` of Model/TextFormats.lean from its two sides.  Rejection: a row of the
wrong width, two rows of different widths or a field outside the grammar, anywhere in the text, gives
the format error, whichever of the reader's checks meets it first.  Acceptance: a text laid out by
`layoutRows` from tokens that pass `GoodTok` is read back as the table of numbers laid out
(`readTable_layoutRows`); the write → read theorems of C06 and C07 rest on this.  At the end, the terms
in which C07 speaks of a text (`dataLines`: its lines that are not comments; `FieldIs`: a field and the
double stored for it) and the step from `readTable` to the readers `readTum`, `readKitti`, `readEuroc`.
-/
import EvoModel.Model.TextFormats
import Mathlib.Data.List.Forall2
import Mathlib.Data.List.Basic
namespace Evo.Text

section mapOpt
variable {α β : Type} {f : α → Option β}

theorem mapOpt_nil : mapOpt f [] = some [] := rfl

theorem mapOpt_cons_some {a : α} {l : List α} {b : β} {bs : List β}
    (h1 : f a = some b) (h2 : mapOpt f l = some bs) : mapOpt f (a :: l) = some (b :: bs) := by
  simp [mapOpt, h1, h2]

theorem mapOpt_cons_inv {a : α} {l : List α} {r : List β} (h : mapOpt f (a :: l) = some r) :
    ∃ b bs, f a = some b ∧ mapOpt f l = some bs ∧ r = b :: bs := by
  unfold mapOpt at h
  split at h
  · rename_i b bs h1 h2
    exact ⟨b, bs, h1, h2, by simpa using h.symm⟩
  · simp at h

theorem mapOpt_some : ∀ {l : List α} {l' : List β}, mapOpt f l = some l' →
    List.Forall₂ (fun a b => f a = some b) l l'
  | [], l', h => by
      have : l' = [] := by simpa [mapOpt] using h.symm
      subst this; exact List.Forall₂.nil
  | a :: l, l', h => by
      obtain ⟨b, bs, h1, h2, rfl⟩ := mapOpt_cons_inv h
      exact List.Forall₂.cons h1 (mapOpt_some h2)

theorem mapOpt_of_forall₂ : ∀ {l : List α} {l' : List β},
    List.Forall₂ (fun a b => f a = some b) l l' → mapOpt f l = some l'
  | _, _, List.Forall₂.nil => rfl
  | _, _, List.Forall₂.cons h1 h2 => mapOpt_cons_some h1 (mapOpt_of_forall₂ h2)

theorem mapOpt_none_of_mem : ∀ {l : List α} {a : α}, a ∈ l → f a = none → mapOpt f l = none
  | b :: _l, a, ha, hf => by
      rcases List.mem_cons.mp ha with rfl | ha
      · simp [mapOpt, hf]
      · simp [mapOpt, mapOpt_none_of_mem ha hf]

theorem mapOpt_length {l : List α} {l' : List β} (h : mapOpt f l = some l') :
    l'.length = l.length := (mapOpt_some h).length_eq.symm

theorem mapOpt_map_map {γ : Type} {f : γ → Option β} {h : α → γ} {k : α → β} {l : List α}
    (hh : ∀ a ∈ l, f (h a) = some (k a)) : mapOpt f (l.map h) = some (l.map k) :=
  mapOpt_of_forall₂ (by
    rw [List.forall₂_map_left_iff, List.forall₂_map_right_iff, List.forall₂_same]; exact hh)

theorem mapOpt_map_of_forall {g : α → β} : ∀ {l : List α}, (∀ a ∈ l, f a = some (g a)) →
    mapOpt f l = some (l.map g) := by
  intro l h; simpa using mapOpt_map_map (h := id) h

theorem mapOpt_map_inv {f : β → Option α} {g : α → β} {l : List α} (h : ∀ a ∈ l, f (g a) = some a) :
    mapOpt f (l.map g) = some l := by
  simpa using mapOpt_map_map (k := id) h

end mapOpt

/-! ### splitOn / joinWith: core's `List.splitOn` and `intercalate`, so core's lemmas apply -/

theorem splitOn_eq (d : Char) : ∀ s : Str, splitOn d s = List.splitOn d s
  | [] => rfl
  | c :: r => by
    rw [splitOn, splitOn_eq d r, List.splitOn_cons_eq_if_modifyHead]
    by_cases h : c = d
    · rw [if_pos h, if_pos (beq_iff_eq.mpr h)]
    · rw [if_neg h, if_neg (by simpa using h)]
      cases hs : List.splitOn d r with
      | nil => exact absurd hs (List.splitOn_ne_nil d r)
      | cons a t => rfl

theorem joinWith_eq (d : Char) : ∀ toks : List Str, joinWith d toks = [d].intercalate toks
  | [] => rfl
  | [a] => by simp [joinWith]
  | a :: b :: r => by
    rw [joinWith, joinWith_eq d (b :: r), List.intercalate_cons_cons]; simp

theorem splitOn_joinWith (d : Char) (toks : List Str) (hne : toks ≠ []) (h : ∀ t ∈ toks, d ∉ t) :
    splitOn d (joinWith d toks) = toks := by
  rw [splitOn_eq, joinWith_eq, List.splitOn_intercalate d h hne]

theorem splitOn_trailing (d : Char) (l : Str) : splitOn d (l ++ [d]) = splitOn d l ++ [[]] := by
  rw [splitOn_eq, splitOn_eq, List.splitOn_append_cons_self, List.splitOn_nil]

theorem lines_nil : lines [] = [] := by decide

theorem lines_append_line (a r : Str) :
    lines (a ++ '\n' :: r) = (splitOn '\n' a).map stripCR ++ lines r := by
  unfold lines
  have hne := List.splitOn_ne_nil '\n' r
  simp only [splitOn_eq, List.splitOn_append_cons_self, List.getLast?_append_of_ne_nil _ hne]
  split
  · rw [List.dropLast_append_of_ne_nil hne, List.map_append]
  · rw [List.map_append]

theorem lines_cons_line (l t : Str) (h : '\n' ∉ l) :
    lines (l ++ '\n' :: t) = stripCR l :: lines t := by
  rw [lines_append_line, splitOn_eq, List.splitOn_eq_singleton h]; rfl

theorem lines_append_complete (a r : Str) :
    lines (a ++ '\n' :: r) = lines (a ++ ['\n']) ++ lines r := by
  rw [lines_append_line a r, lines_append_line a [], lines_nil, List.append_nil]

theorem readTable_ok {d : Char} {w : Nat → Bool} {t : Str} {m : List (List Rat)}
    (h : readTable d w t = .ok m) :
    ∃ r0 rest q, csvRows d t = r0 :: rest ∧ w r0.length = true ∧
      (∀ r ∈ rest, r.length = r0.length) ∧
      mapOpt (mapOpt parseDec) (r0 :: rest) = some q ∧ mapOpt (mapOpt F64.rne) q = some m := by
  unfold readTable at h
  split at h
  · cases h
  rename_i r0 rest heq
  split at h
  · cases h
  rename_i hw
  split at h
  · cases h
  rename_i hall
  split at h
  · cases h
  rename_i q hq
  split at h
  · cases h
  rename_i m' hm
  cases h
  rw [Bool.not_eq_true, Bool.not_eq_false'] at hw hall
  exact ⟨r0, rest, q, heq, hw, fun r hr => beq_iff_eq.mp (List.all_eq_true.mp hall r hr), hq, hm⟩

theorem readTable_no_rows {d : Char} {w : Nat → Bool} {t : Str} (h : csvRows d t = []) :
    readTable d w t = .error .format := by
  unfold readTable; rw [h]

theorem readTable_widths {d : Char} {w : Nat → Bool} {t : Str} {r0 : List Str} {rest : List (List Str)}
    (h : csvRows d t = r0 :: rest) (hbad : w r0.length = false ∨ ∃ r ∈ rest, r.length ≠ r0.length) :
    readTable d w t = .error .format := by
  unfold readTable; rw [h]
  rcases hbad with hw | ⟨r, hr, hne⟩
  · simp [hw]
  · have : rest.all (fun r => r.length == r0.length) = false :=
      List.all_eq_false.mpr ⟨r, hr, by simpa using hne⟩
    simp [this]

/-- only the first row is tested against `w`: a later row that `w` refuses is caught as ragged -/
theorem readTable_bad_row {d : Char} {w : Nat → Bool} {t : Str} {r : List Str}
    (hr : r ∈ csvRows d t) (hw : w r.length = false) : readTable d w t = .error .format := by
  cases hc : csvRows d t with
  | nil => exact readTable_no_rows hc
  | cons r0 rest =>
    rw [hc] at hr
    by_cases h0 : w r0.length = false
    · exact readTable_widths hc (Or.inl h0)
    · rcases List.mem_cons.mp hr with rfl | hr
      · exact absurd hw h0
      · exact readTable_widths hc (Or.inr ⟨r, hr, fun e => h0 (e ▸ hw)⟩)

theorem readTable_ragged {d : Char} {w : Nat → Bool} {t : Str} {r r' : List Str}
    (hr : r ∈ csvRows d t) (hr' : r' ∈ csvRows d t) (hlen : r.length ≠ r'.length) :
    readTable d w t = .error .format := by
  cases hc : csvRows d t with
  | nil => exact readTable_no_rows hc
  | cons r0 rest =>
    rw [hc] at hr hr'
    -- one of the two differs from the first row, so it is a later one
    have key : ∀ r ∈ r0 :: rest, r.length ≠ r0.length → readTable d w t = .error .format := by
      intro r hr hne
      rcases List.mem_cons.mp hr with rfl | hr
      · exact absurd rfl hne
      · exact readTable_widths hc (Or.inr ⟨r, hr, hne⟩)
    by_cases h1 : r.length = r0.length
    · exact key r' hr' fun e => hlen (h1.trans e.symm)
    · exact key r hr h1

theorem readTable_non_numeric {d : Char} {w : Nat → Bool} {t : Str} {r : List Str} {f : Str}
    (hr : r ∈ csvRows d t) (hf : f ∈ r) (hbad : parseDec f = none) :
    readTable d w t = .error .format := by
  have h := mapOpt_none_of_mem (f := mapOpt parseDec) hr (mapOpt_none_of_mem hf hbad)
  unfold readTable
  cases hc : csvRows d t with
  | nil => rfl
  | cons r0 rest =>
    -- whichever check fires first, the answer is the format error
    rw [hc] at h
    simp only [h]
    split_ifs <;> rfl

/-! ### reading back what the writers lay out -/

/-- what the harness checks for every token evo writes for the double `x`: it is a literal of the
grammar and it converts back to `x` -/
def GoodTok (tok : Rat → Str) (x : Rat) : Prop :=
  inGrammar (tok x) = true ∧ ∃ q, parseDec (tok x) = some q ∧ F64.rne q = some x

theorem mem_joinWith (d : Char) : ∀ (toks : List Str) (c : Char), c ∈ joinWith d toks →
    c = d ∨ ∃ t ∈ toks, c ∈ t
  | [], c, h => by simp [joinWith] at h
  | [a], c, h => Or.inr ⟨a, by simp, by simpa [joinWith] using h⟩
  | a :: b :: r, c, h => by
      simp only [joinWith, List.mem_append, List.mem_cons] at h
      rcases h with h | h | h
      · exact Or.inr ⟨a, by simp, h⟩
      · exact Or.inl h
      · rcases mem_joinWith d (b :: r) c h with h | ⟨t, ht, hc⟩
        · exact Or.inl h
        · exact Or.inr ⟨t, List.mem_cons_of_mem _ ht, hc⟩

theorem tokChar_of_inGrammar {s : Str} (h : inGrammar s = true) : ∀ c ∈ s, isTokChar c = true := by
  unfold inGrammar at h
  simp only [Bool.and_eq_true, List.all_eq_true] at h
  exact h.1

theorem ne_nil_of_inGrammar {s : Str} (h : inGrammar s = true) : s ≠ [] := by
  rintro rfl
  revert h; decide

theorem joinWith_ne_nil (d : Char) {a : Str} (ha : a ≠ []) : ∀ r : List Str, joinWith d (a :: r) ≠ []
  | [] => ha
  | _ :: _ => by simp [joinWith, ha]

theorem line_facts (tok : Rat → Str) (r : List Rat) (hne : r ≠ [])
    (hg : ∀ x ∈ r, inGrammar (tok x) = true) :
    let L := joinWith ' ' (r.map tok)
    '\n' ∉ L ∧ stripCR L = L ∧ isComment L = false ∧ fields ' ' L = r.map tok := by
  intro L
  -- every character of the line is a blank or a token character; `\n`, `\r` and `#` are neither
  have hchars : ∀ c ∈ L, (c == ' ' || isTokChar c) = true := by
    intro c hc
    rcases mem_joinWith ' ' _ c hc with rfl | ⟨t, ht, hct⟩
    · rfl
    · obtain ⟨x, hx, rfl⟩ := List.mem_map.mp ht
      rw [tokChar_of_inGrammar (hg x hx) c hct, Bool.or_true]
  have hLne : L ≠ [] := by
    obtain ⟨x, r', rfl⟩ := List.exists_cons_of_ne_nil hne
    exact joinWith_ne_nil ' ' (ne_nil_of_inGrammar (hg x (by simp))) _
  refine ⟨fun h => absurd (hchars _ h) (by decide), ?_, ?_, ?_⟩
  · exact if_neg fun h => absurd (hchars _ (List.mem_of_getLast? h)) (by decide)
  · by_contra h
    have h' : L.head? = some '#' := by simpa [isComment] using h
    exact absurd (hchars _ (List.mem_of_head? h')) (by decide)
  · rw [fields, if_neg (by simpa using hLne)]
    apply splitOn_joinWith
    · simpa using hne
    · intro t ht hsp
      obtain ⟨x, hx, rfl⟩ := List.mem_map.mp ht
      exact absurd (tokChar_of_inGrammar (hg x hx) ' ' hsp) (by decide)

theorem csvRows_cons_line (L T : Str) (h1 : '\n' ∉ L) (h2 : stripCR L = L) (h3 : isComment L = false) :
    csvRows ' ' (L ++ '\n' :: T) = fields ' ' L :: csvRows ' ' T := by
  unfold csvRows
  rw [lines_cons_line L T h1, h2]
  simp [h3]

theorem csvRows_nil : csvRows ' ' [] = [] := by decide

theorem csvRows_layoutRows (tok : Rat → Str) : ∀ (rows : List (List Rat)),
    (∀ r ∈ rows, r ≠ [] ∧ ∀ x ∈ r, inGrammar (tok x) = true) →
    csvRows ' ' (layoutRows tok rows) = rows.map (fun r => r.map tok)
  | [], _ => by simp [layoutRows, csvRows_nil]
  | r :: rows, h => by
      obtain ⟨hne, hg⟩ := h r (by simp)
      obtain ⟨h1, h2, h3, h4⟩ := line_facts tok r hne hg
      have ih := csvRows_layoutRows tok rows (fun r' hr' => h r' (List.mem_cons_of_mem _ hr'))
      have hl : layoutRows tok (r :: rows)
          = joinWith ' ' (r.map tok) ++ '\n' :: layoutRows tok rows := by
        simp [layoutRows]
      rw [hl, csvRows_cons_line _ _ h1 h2 h3, h4]
      simp only [List.map_cons]
      rw [ih]

theorem readTable_layoutRows (tok : Rat → Str) (w : Nat → Bool) (n : Nat) (rows : List (List Rat))
    (hne : rows ≠ []) (hn : n ≠ 0) (hw : w n = true) (hlen : ∀ r ∈ rows, r.length = n)
    (hg : ∀ r ∈ rows, ∀ x ∈ r, GoodTok tok x) :
    readTable ' ' w (layoutRows tok rows) = .ok rows := by
  obtain ⟨r0, rows, rfl⟩ := List.exists_cons_of_ne_nil hne
  have hcsv := csvRows_layoutRows tok (r0 :: rows) fun r hr =>
    ⟨fun e => hn (by rw [← hlen r hr, e]; rfl), fun x hx => (hg r hr x hx).1⟩
  -- the exact value of each token, as a function of the number
  let g : Rat → Rat := fun x => (parseDec (tok x)).getD 0
  have hgx : ∀ r ∈ r0 :: rows, ∀ x ∈ r, parseDec (tok x) = some (g x) ∧ F64.rne (g x) = some x := by
    intro r hr x hx
    obtain ⟨-, q, hq, hr'⟩ := hg r hr x hx
    have : g x = q := by simp [g, hq]
    rw [this]; exact ⟨hq, hr'⟩
  have hp : mapOpt (mapOpt parseDec) ((r0 :: rows).map (fun r => r.map tok))
      = some ((r0 :: rows).map (fun r => r.map g)) :=
    mapOpt_map_map fun r hr => mapOpt_map_map fun x hx => (hgx r hr x hx).1
  have hr : mapOpt (mapOpt F64.rne) ((r0 :: rows).map (fun r => r.map g)) = some (r0 :: rows) :=
    mapOpt_map_inv fun r hr => mapOpt_map_inv fun x hx => (hgx r hr x hx).2
  have hall : (rows.map (fun r => r.map tok)).all (fun r => r.length == (r0.map tok).length) = true := by
    simp only [List.all_eq_true, List.mem_map]
    rintro _ ⟨r, hr, rfl⟩
    simp [hlen r (List.mem_cons_of_mem _ hr), hlen r0 (List.mem_cons_self ..)]
  unfold readTable
  rw [hcsv]
  simp only [List.map_cons] at hp hr ⊢
  simp only [List.length_map, hlen r0 (List.mem_cons_self ..), hw] at hall ⊢
  simp only [hall, hp, hr, Bool.not_true, Bool.false_eq_true, if_false]

/-! ### the terms of C07's statements about `readTum`, `readKitti`, `readEuroc` -/

def dataLines (t : Str) : List Str := (lines t).filter (fun l => !isComment l)

theorem csvRows_eq (d : Char) (t : Str) : csvRows d t = (dataLines t).map (fields d) := rfl

/-- a field evo stores as the double `v`: it is a literal of the grammar and `v` is its rounding -/
def FieldIs (f : Str) (v : Rat) : Prop := ∃ q, parseDec f = some q ∧ F64.rne q = some v

theorem forall₂_comp {α β γ : Type} {R : α → β → Prop} {S : β → γ → Prop} :
    ∀ {a : List α} {b : List β} {c : List γ}, List.Forall₂ R a b → List.Forall₂ S b c →
      List.Forall₂ (fun x z => ∃ y, R x y ∧ S y z) a c
  | _, _, _, List.Forall₂.nil, List.Forall₂.nil => List.Forall₂.nil
  | _, _, _, List.Forall₂.cons h1 t1, List.Forall₂.cons h2 t2 =>
      List.Forall₂.cons ⟨_, h1, h2⟩ (forall₂_comp t1 t2)

theorem readTum_err {t : Str} (h : readTable ' ' (· == 8) t = .error .format) :
    readTum t = .error .format := by unfold readTum; rw [h]
theorem readKitti_err {t : Str} (h : readTable ' ' (· == 12) t = .error .format) :
    readKitti t = .error .format := by unfold readKitti; rw [h]
theorem readEuroc_err {t : Str} (h : readTable ',' (· ≥ 8) t = .error .format) :
    readEuroc t = .error .format := by unfold readEuroc; rw [h]

theorem parseDec_nil : parseDec [] = none := by decide

theorem isComment_stripCR (c : Str) (h : isComment c = true) : isComment (stripCR c) = true := by
  unfold stripCR
  split
  · rename_i hl
    cases c with
    | nil => simp [isComment] at h
    | cons a r =>
      cases r with
      | nil =>
        simp only [isComment, List.head?_cons, Option.some.injEq, decide_eq_true_eq] at h
        subst h
        revert hl; decide
      | cons b r' => simpa [isComment, List.dropLast] using h
  · exact h

theorem tumOfRow_tumRow (p : StampedPose) : tumOfRow (tumRow p) = some p := by cases p; rfl
theorem kittiOfRow_kittiRow (m : Mat34) : kittiOfRow (kittiRow m) = some m := by cases m; rfl

end Evo.Text
