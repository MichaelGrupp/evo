/-
Trace maximality — the core of Umeyama optimality (C03), over any ordered field:

  `A` symmetric, `tr(A)·I − A` positive semidefinite, `Q ∈ SO(3)`  ⇒  `tr(Q·A) ≤ tr A`.

`IsRot.trace_defect` writes `tr A − tr(Q·sym A)` as twice the sum of the quadratic form of
`tr(A)·I − A` at four vectors that are linear in `Q` and whose squared norms add up to
`(3 − tr Q)/4`. The exact form (`traceMax`), the strict form (`Ume.traceMax_eq_one`: equality only for
`Q = I` when the form is definite) and the approximate form (`Ume.traceMax_approx`) are read off from it.
Also: a symmetric 3×3 matrix is positive semidefinite when all its principal minors are `≥ 0`, and
definite when the leading ones are `> 0` (what the executable certificates test).
-/
import EvoModel.Lemmas.SO3
import EvoModel.Model.Umeyama
namespace Evo

-- `Ume.IsPD.psd` and `qform_sym_reduce` do not need all of the section's order structure
set_option linter.unusedSectionVars false
-- the ten hypotheses of `traceMax_scalar` that its proof does not use
set_option linter.unusedVariables false

section order
variable {K : Type} [Field K] [LinearOrder K] [IsStrictOrderedRing K]

def qform (B : M3 K) (v : V3 K) : K := V3.dot v (M3.mulVec B v)

def IsPSD (B : M3 K) : Prop := ∀ v : V3 K, 0 ≤ qform B v

namespace Ume

/-- Definite, in the contrapositive form `traceMax_eq_one` applies it in: there the four forms are `≥ 0`
and sum to `0`, so each is `≤ 0`, and this gives `vⱼ = 0` at once. -/
def IsPD (B : M3 K) : Prop := ∀ v : V3 K, qform B v ≤ 0 → v = V3.zero

theorem IsPD.psd {B : M3 K} (h : IsPD B) : IsPSD B := fun v => le_of_not_gt fun hneg => by
  rw [h v hneg.le] at hneg
  simp [qform, V3.dot, M3.mulVec, V3.zero] at hneg

/-- `tr(tr(A)·I − A) = 2·tr A`, and a definite form is positive on the three unit vectors -/
theorem IsPD.trace_pos {A : M3 K} (h : IsPD (bmat A)) : 0 < A.trace := by
  have pos : ∀ v : V3 K, v ≠ V3.zero → 0 < qform (bmat A) v :=
    fun v hv => lt_of_not_ge fun hq => hv (h v hq)
  have e1 := pos ⟨1, 0, 0⟩ (fun h => one_ne_zero (congrArg V3.x h))
  have e2 := pos ⟨0, 1, 0⟩ (fun h => one_ne_zero (congrArg V3.y h))
  have e3 := pos ⟨0, 0, 1⟩ (fun h => one_ne_zero (congrArg V3.z h))
  simp only [qform, bmat, M3.sub, M3.smul, M3.one, M3.trace, M3.mulVec, V3.dot] at e1 e2 e3 ⊢
  linarith

end Ume

theorem IsRot.trace_defect {Q : M3 K} (hQ : IsRot Q) :
    ∃ v₀ v₁ v₂ v₃ : V3 K,
      v₀.normSq + v₁.normSq + v₂.normSq + v₃.normSq = (3 - Q.trace) / 4 ∧
      ∀ A : M3 K, 2 * A.trace - (Q.mul A).trace - (Q.mul A.transpose).trace
        = 4 * (qform (Ume.bmat A) v₀ + qform (Ume.bmat A) v₁ + qform (Ume.bmat A) v₂
            + qform (Ume.bmat A) v₃) := by
  obtain ⟨⟨k00, k01, k02⟩, ⟨k10, k11, k12⟩, ⟨k20, k21, k22⟩⟩ := hQ.cof
  obtain ⟨c00, -, -, c11, -, c22⟩ := hQ.1.eqs
  -- With the unit quaternion `(q₀, q)` of `Q`: `Q = I + 2q₀[q]ₓ + 2[q]ₓ²` gives
  -- `tr S − tr(QS) = 2·qᵀ(tr(S)I − S)q` for symmetric `S`, and `q₀² + |q|² = 1` splits `qqᵀ` into the
  -- outer products of `q₀q, q₁q, q₂q, q₃q`. Every product `q_a q_b` is linear in `Q`
  -- (`q₀q = axis2 Q / 4`, `qqᵀ = (Q + Qᵀ)/4 + (1 − tr Q)/4·I`): no square root, and no case
  -- distinction at angle π. The coefficients of the two `linear_combination`s (generators: column
  -- norms and cofactor equations) were found offline with sympy; only Lean's check is trusted.
  refine ⟨V3.smul (1 / 4) Q.axis2,
    ⟨(2 * Q.a00 + 1 - Q.trace) / 4, (Q.a01 + Q.a10) / 4, (Q.a02 + Q.a20) / 4⟩,
    ⟨(Q.a01 + Q.a10) / 4, (2 * Q.a11 + 1 - Q.trace) / 4, (Q.a12 + Q.a21) / 4⟩,
    ⟨(Q.a02 + Q.a20) / 4, (Q.a12 + Q.a21) / 4, (2 * Q.a22 + 1 - Q.trace) / 4⟩, ?_, fun A => ?_⟩
  · simp only [V3.normSq, V3.dot, V3.smul, M3.axis2, M3.trace]
    linear_combination (3 / 16 : K) * (c00 + c11 + c22) - (1 / 8 : K) * (k00 + k11 + k22)
  · simp only [qform, Ume.bmat, M3.mul, M3.transpose, M3.sub, M3.smul, M3.one, M3.trace, M3.mulVec,
      V3.dot, V3.smul, M3.axis2]
    linear_combination (-(A.a00 + A.a11 + A.a22) / 2) * (c00 + c11 + c22) + A.a00 * k00
      + ((A.a01 + A.a10) / 2) * (k01 + k10) + ((A.a02 + A.a20) / 2) * (k02 + k20) + A.a11 * k11
      + ((A.a12 + A.a21) / 2) * (k12 + k21) + A.a22 * k22

theorem traceMax (Q A : M3 K) (hQ : IsRot Q) (hA : A.transpose = A) (hB : IsPSD (Ume.bmat A)) :
    (Q.mul A).trace ≤ A.trace := by
  obtain ⟨v₀, v₁, v₂, v₃, -, h⟩ := hQ.trace_defect
  have h := h A
  rw [hA] at h
  linarith [hB v₀, hB v₁, hB v₂, hB v₃]

namespace Ume

theorem traceMax_eq_one (Q A : M3 K) (hQ : IsRot Q) (hA : A.transpose = A) (hB : IsPD (bmat A))
    (heq : (Q.mul A).trace = A.trace) : Q = M3.one := by
  obtain ⟨v₀, v₁, v₂, v₃, hn, h⟩ := hQ.trace_defect
  have h := h A
  rw [hA, heq] at h
  have p := hB.psd
  -- the four forms are non-negative and sum to zero, so the four vectors vanish: `tr Q = 3`
  have z₀ := hB v₀ (by linarith [p v₁, p v₂, p v₃])
  have z₁ := hB v₁ (by linarith [p v₀, p v₂, p v₃])
  have z₂ := hB v₂ (by linarith [p v₀, p v₁, p v₃])
  have z₃ := hB v₃ (by linarith [p v₀, p v₁, p v₂])
  rw [z₀, z₁, z₂, z₃, V3.normSq_zero] at hn
  exact hQ.1.eq_one_of_trace (by linarith)

theorem mul_le_of_sq_le {u δ ε : K} (hu : u ^ 2 ≤ 2 ^ 2) (hd : -ε ≤ δ ∧ δ ≤ ε) : u * δ ≤ 2 * ε :=
  calc u * δ ≤ |u * δ| := le_abs_self _
    _ = |u| * |δ| := abs_mul u δ
    _ ≤ 2 * ε := mul_le_mul (abs_le_of_sq_le_sq hu zero_le_two) (abs_le.mpr hd) (abs_nonneg _) zero_le_two

theorem traceMax_approx (Q A : M3 K) (hQ : IsRot Q) (ε₂ ε₃ : K)
    (s01 : -ε₂ ≤ A.a01 - A.a10 ∧ A.a01 - A.a10 ≤ ε₂) (s02 : -ε₂ ≤ A.a02 - A.a20 ∧ A.a02 - A.a20 ≤ ε₂)
    (s12 : -ε₂ ≤ A.a12 - A.a21 ∧ A.a12 - A.a21 ≤ ε₂)
    (h3 : 0 ≤ ε₃) (hp : ∀ v : V3 K, 0 ≤ qform (bmat A) v + ε₃ * V3.normSq v) :
    (Q.mul A).trace ≤ A.trace + (3 * ε₂ + 3 * ε₃) := by
  obtain ⟨v₀, v₁, v₂, v₃, hn, h⟩ := hQ.trace_defect
  have h := h A
  -- symmetric part: the four forms are `≥ −ε₃‖vⱼ‖²`, and `Σ‖vⱼ‖² = (3 − tr Q)/4 ≤ 1`
  have hn' : ε₃ * (v₀.normSq + v₁.normSq + v₂.normSq + v₃.normSq) ≤ ε₃ * 1 :=
    mul_le_mul_of_nonneg_left (by linarith [hQ.neg_one_le_trace]) h3
  -- antisymmetric part: three products of `|Q_ji − Q_ij| ≤ 2` and `|A_ij − A_ji| ≤ ε₂`
  have hs : (Q.mul A).trace - (Q.mul A.transpose).trace = (Q.a10 - Q.a01) * (A.a01 - A.a10)
      + (Q.a20 - Q.a02) * (A.a02 - A.a20) + (Q.a21 - Q.a12) * (A.a12 - A.a21) := by
    simp only [M3.mul, M3.trace, M3.transpose]; ring
  -- `(Q₂₁−Q₁₂)² + (Q₀₂−Q₂₀)² + (Q₁₀−Q₀₁)² = (1 + tr Q)(3 − tr Q) = 4 − (1 − tr Q)²`
  have ha := hQ.axis2_normSq
  simp only [M3.axis2, V3.normSq, V3.dot] at ha
  rw [show (1 + Q.trace) * (3 - Q.trace) = 2 ^ 2 - (1 - Q.trace) * (1 - Q.trace) by ring] at ha
  have n0 := mul_self_nonneg (1 - Q.trace)
  have nx := mul_self_nonneg (Q.a21 - Q.a12)
  have ny := mul_self_nonneg (Q.a02 - Q.a20)
  have nz := mul_self_nonneg (Q.a10 - Q.a01)
  have p01 := mul_le_of_sq_le (u := Q.a10 - Q.a01) (by rw [sq (Q.a10 - Q.a01)]; linarith) s01
  have p02 := mul_le_of_sq_le (u := Q.a20 - Q.a02)
    (by rw [show (Q.a20 - Q.a02) ^ 2 = (Q.a02 - Q.a20) * (Q.a02 - Q.a20) by ring]; linarith) s02
  have p12 := mul_le_of_sq_le (u := Q.a21 - Q.a12) (by rw [sq (Q.a21 - Q.a12)]; linarith) s12
  linarith [hp v₀, hp v₁, hp v₂, hp v₃]

end Ume

/-- quadratic form of `B = tr(A)·I − A` for symmetric `A` given by its 6 entries -/
def QB (A11 A12 A13 A22 A23 A33 x y z : K) : K :=
  (A11 + A22 + A33) * (x^2 + y^2 + z^2)
    - (A11*x^2 + A22*y^2 + A33*z^2 + 2*A12*x*y + 2*A13*x*z + 2*A23*y*z)

/-- `traceMax` in scalars.  The statement lists all twenty equations of a proper rotation
`[[a,b,c],[d,e,f],[g,h,i]]`: `hc*` (columns orthonormal), `hr*` (rows orthonormal), `hk*` (equal to its
cofactor matrix); the proof uses `hc*` for `IsOrtho` and `hr00`, `hk00`–`hk02` for `det = 1`, not the other ten. -/
theorem traceMax_scalar (a b c d e f g h i A11 A12 A13 A22 A23 A33 : K)
    (hc00 : a^2 + d^2 + g^2 - 1 = 0) (hc01 : a*b + d*e + g*h = 0) (hc02 : a*c + d*f + g*i = 0)
    (hc11 : b^2 + e^2 + h^2 - 1 = 0) (hc12 : b*c + e*f + h*i = 0) (hc22 : c^2 + f^2 + i^2 - 1 = 0)
    (hr00 : a^2 + b^2 + c^2 - 1 = 0) (hr01 : a*d + b*e + c*f = 0) (hr02 : a*g + b*h + c*i = 0)
    (hr11 : d^2 + e^2 + f^2 - 1 = 0) (hr12 : d*g + e*h + f*i = 0)
    (hk00 : -a + e*i - f*h = 0) (hk01 : -b - d*i + f*g = 0) (hk02 : -c + d*h - e*g = 0)
    (hk10 : -b*i + c*h - d = 0) (hk11 : a*i - c*g - e = 0) (hk12 : -a*h + b*g - f = 0)
    (hk20 : b*f - c*e - g = 0) (hk21 : -a*f + c*d - h = 0) (hk22 : a*e - b*d - i = 0)
    (hB : ∀ x y z : K, 0 ≤ QB A11 A12 A13 A22 A23 A33 x y z) :
    a*A11 + b*A12 + c*A13 + d*A12 + e*A22 + f*A23 + g*A13 + h*A23 + i*A33
      ≤ A11 + A22 + A33 := by
  have hO : IsOrtho (⟨a, b, c, d, e, f, g, h, i⟩ : M3 K) := by
    unfold IsOrtho
    ext <;> simp only [M3.mul, M3.transpose, M3.one]
    · linear_combination hc00
    · linear_combination hc01
    · linear_combination hc02
    · linear_combination hc01
    · linear_combination hc11
    · linear_combination hc12
    · linear_combination hc02
    · linear_combination hc12
    · linear_combination hc22
  have hD : (⟨a, b, c, d, e, f, g, h, i⟩ : M3 K).det = 1 := by
    simp only [M3.det]
    linear_combination a * hk00 + b * hk01 + c * hk02 + hr00
  have key := traceMax _ ⟨A11, A12, A13, A12, A22, A23, A13, A23, A33⟩ ⟨hO, hD⟩ rfl (fun v => by
    have := hB v.x v.y v.z
    simp only [QB] at this
    simp only [qform, Ume.bmat, M3.sub, M3.smul, M3.one, M3.trace, M3.mulVec, V3.dot]
    linarith)
  simp only [M3.mul, M3.trace] at key
  linarith

/-- Lagrange's reduction: `p·vᵀBv` is a square plus the binary form of the Schur complement of `p`, whose
determinant is `p·det B` -/
theorem qform_sym_reduce (p q r u w t x y z : K) :
    p * qform ⟨p, u, w, u, q, t, w, t, r⟩ ⟨x, y, z⟩ = (p * x + u * y + w * z) ^ 2
      + ((p * q - u * u) * y ^ 2 + 2 * (p * t - u * w) * y * z + (p * r - w * w) * z ^ 2) ∧
    (p * q - u * u) * (p * r - w * w) - (p * t - u * w) * (p * t - u * w)
      = p * M3.det ⟨p, u, w, u, q, t, w, t, r⟩ := by
  simp only [qform, V3.dot, M3.mulVec, M3.det]
  constructor <;> ring

theorem binary_psd (P m R y z : K) (hP : 0 ≤ P) (hR : 0 ≤ R) (hD : 0 ≤ P * R - m * m) :
    0 ≤ P * y^2 + 2 * m * y * z + R * z^2 := by
  rcases hP.lt_or_eq with hpos | rfl
  · refine nonneg_of_mul_nonneg_right ?_ hpos
    rw [show P * (P * y^2 + 2 * m * y * z + R * z^2) = (P * y + m * z)^2 + (P * R - m * m) * z^2 by ring]
    positivity
  · have hm : m = 0 := mul_self_eq_zero.mp (le_antisymm (by linarith) (mul_self_nonneg m))
    rw [hm]
    have : 0 ≤ R * z^2 := by positivity
    linarith

theorem binary_pd (P m R y z : K) (hP : 0 < P) (hD : 0 < P * R - m * m)
    (h : P * y^2 + 2 * m * y * z + R * z^2 ≤ 0) : y = 0 ∧ z = 0 := by
  have ha := sq_nonneg (P * y + m * z)
  have hb := mul_nonneg hD.le (sq_nonneg z)
  have hle : (P * y + m * z)^2 + (P * R - m * m) * z^2 ≤ 0 := by
    rw [show (P * y + m * z)^2 + (P * R - m * m) * z^2 = P * (P * y^2 + 2 * m * y * z + R * z^2) by ring]
    exact mul_nonpos_of_nonneg_of_nonpos hP.le h
  obtain ⟨ea, eb⟩ := (add_eq_zero_iff_of_nonneg ha hb).mp (le_antisymm hle (add_nonneg ha hb))
  have hz : z = 0 := (pow_eq_zero_iff two_ne_zero).mp ((mul_eq_zero.mp eb).resolve_left hD.ne')
  have hy := (pow_eq_zero_iff two_ne_zero).mp ea
  rw [hz, mul_zero, add_zero] at hy
  exact ⟨(mul_eq_zero.mp hy).resolve_left hP.ne', hz⟩

theorem psd_of_minors (B : M3 K) (hs : B.transpose = B)
    (d0 : 0 ≤ B.a00) (d1 : 0 ≤ B.a11) (d2 : 0 ≤ B.a22)
    (m01 : 0 ≤ Ume.pm01 B) (m02 : 0 ≤ Ume.pm02 B) (m12 : 0 ≤ Ume.pm12 B) (hdet : 0 ≤ B.det) :
    IsPSD B := by
  obtain ⟨p, u, w, u', q, t, w', t', r⟩ := B
  obtain rfl : u = u' := congrArg M3.a10 hs
  obtain rfl : w = w' := congrArg M3.a20 hs
  obtain rfl : t = t' := congrArg M3.a21 hs
  simp only [Ume.pm01, Ume.pm02, Ume.pm12] at d0 d1 d2 m01 m02 m12
  rintro ⟨x, y, z⟩
  rcases d0.lt_or_eq with hpos | rfl
  · obtain ⟨hid, hD⟩ := qform_sym_reduce p q r u w t x y z
    refine nonneg_of_mul_nonneg_right ?_ hpos
    rw [hid]
    exact add_nonneg (sq_nonneg _) (binary_psd _ _ _ y z m01 m02 (hD ▸ mul_nonneg d0 hdet))
  · have hu : u = 0 := mul_self_eq_zero.mp (le_antisymm (by linarith) (mul_self_nonneg u))
    have hw : w = 0 := mul_self_eq_zero.mp (le_antisymm (by linarith) (mul_self_nonneg w))
    have := binary_psd q t r y z d1 d2 m12
    simp only [qform, V3.dot, M3.mulVec, hu, hw]
    linarith

theorem Ume.pd_of_minors (B : M3 K) (hs : B.transpose = B)
    (d0 : 0 < B.a00) (m01 : 0 < Ume.pm01 B) (hdet : 0 < B.det) : Ume.IsPD B := by
  obtain ⟨p, u, w, u', q, t, w', t', r⟩ := B
  obtain rfl : u = u' := congrArg M3.a10 hs
  obtain rfl : w = w' := congrArg M3.a20 hs
  obtain rfl : t = t' := congrArg M3.a21 hs
  simp only [Ume.pm01] at d0 m01
  rintro ⟨x, y, z⟩ hv
  obtain ⟨hid, hD⟩ := qform_sym_reduce p q r u w t x y z
  have hle := mul_nonpos_of_nonneg_of_nonpos d0.le hv
  rw [hid] at hle
  -- the binary form is `≤ 0`, so `y = z = 0`; then the square is `(p x)²`
  obtain ⟨rfl, rfl⟩ := binary_pd _ _ _ y z m01 (hD ▸ mul_pos d0 hdet)
    (by linarith [sq_nonneg (p * x + u * y + w * z)])
  have hL : p * x + u * 0 + w * 0 = 0 :=
    (pow_eq_zero_iff two_ne_zero).mp (le_antisymm (by linarith) (sq_nonneg _))
  rw [mul_zero, mul_zero, add_zero, add_zero] at hL
  rw [(mul_eq_zero.mp hL).resolve_left d0.ne']; rfl

end order
end Evo
