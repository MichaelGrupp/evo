/-
Refinement lemmas for `Model/Traj.lean`: the invariant `Inv` tying the cache machine to the
abstract trajectory and the list lemmas behind it; `Proper` poses and the pose-list functions that keep them.
-/
import EvoModel.Model.Traj
import EvoModel.Lemmas.Lin
import EvoModel.Lemmas.ReduceIds
import EvoModel.Lemmas.ListAux
namespace Evo.Traj
open Evo

theorem zipWith_rot_t (ps : List P) :
    List.zipWith se3Of (ps.map (·.rot)) (ps.map (·.t)) = ps := by
  induction ps with
  | nil => rfl
  | cons p r ih => simp [se3Of, ih]

theorem zipWith_fst {α β γ} (k : α → γ) {l : List α} {l' : List β} (h : l.length ≤ l'.length) :
    List.zipWith (fun a _ => k a) l l' = l.map k := by
  rw [← List.map_uncurry_zip_eq_zipWith, show Function.uncurry (fun a (_ : β) => k a) = k ∘ Prod.fst from rfl,
    ← List.map_map, List.map_fst_zip h]

theorem zipWith_snd {α β γ} (k : β → γ) {l : List α} {l' : List β} (h : l'.length ≤ l.length) :
    List.zipWith (fun _ b => k b) l l' = l'.map k := by
  rw [← List.map_uncurry_zip_eq_zipWith, show Function.uncurry (fun (_ : α) b => k b) = k ∘ Prod.snd from rfl,
    ← List.map_map, List.map_snd_zip h]

@[simp] theorem poses_length (l : List Item) : (poses l).length = l.length := by simp [poses]

theorem poses_onPoses {f : List P → List P} (hf : ∀ ps, (f ps).length = ps.length) (l : List Item) :
    poses (onPoses f l) = f (poses l) := by
  rw [poses, onPoses, List.map_zipWith]
  exact (zipWith_fst id (by simp [hf, poses])).trans (List.map_id _)

theorem stampsOf_onPoses {f : List P → List P} (hf : ∀ ps, (f ps).length = ps.length) (l : List Item) :
    stampsOf (onPoses f l) = stampsOf l := by
  rw [stampsOf, onPoses, List.map_zipWith]
  exact zipWith_snd _ (by simp [hf, poses])

theorem length_onPoses (f : List P → List P) (l : List Item) (h : (f (poses l)).length = l.length) :
    (onPoses f l).length = l.length := by
  unfold onPoses; simp [List.length_zipWith, h]

theorem propagate_length (p0 : P) (ds : List P) : (propagate p0 ds).length = ds.length + 1 := by
  induction ds generalizing p0 with
  | nil => rfl
  | cons d r ih => simp [propagate, ih]

theorem relsOf_eq (ps : List P) : relsOf ps = List.zipWith Pose.rel ps ps.tail :=
  eq_zipWith_tail rfl (fun _ => rfl) (fun _ _ _ => rfl) ps

theorem relsOf_length (ps : List P) : (relsOf ps).length = ps.length - 1 := by
  rw [relsOf_eq, length_zipWith_tail]

theorem transformPoses_length (m : Mode) (T : P) (ps : List P) : (transformPoses m T ps).length = ps.length := by
  cases m with
  | left => simp [transformPoses]
  | right => simp [transformPoses]
  | prop =>
      cases ps with
      | nil => rfl
      | cons p0 r => simp [transformPoses, propagate_length, relsOf_length]

theorem unscalePow_length (s : Rat) (e : Nat) (ps : List P) : (unscalePow s e ps).length = ps.length := by
  induction ps generalizing e with
  | nil => rfl
  | cons p r ih => simp [unscalePow, ih]

theorem normalise_length (m : Mode) (s : Rat) (ps : List P) : (normalise m s ps).length = ps.length := by
  cases m <;> simp [normalise, unscalePow_length]

theorem transformFull_length (m : Mode) (T : P) (norm : Option Rat) (ps : List P) :
    (transformFull m T norm ps).length = ps.length := by
  cases norm <;> simp [transformFull, normalise_length, transformPoses_length]

theorem projPoses_length (nd : Nat) (qs : List (M3 Rat)) (ps : List P) : (projPoses nd qs ps).length = ps.length := by
  induction ps generalizing qs with
  | nil => cases qs <;> rfl
  | cons p r ih => cases qs <;> simp [projPoses, ih]

/-- every present cache equals the corresponding view of the abstract trajectory (hence all
present caches and the stamps have the same length); at least one complete representation is
present; the flags agree -/
structure Inv (s : St) (a : ATraj) : Prop where
  pos : ∀ l, s.pos? = some l → l = (poses a.items).map (·.t)
  quat : ∀ l, s.quat? = some l → l = (poses a.items).map (·.rot)
  se3 : ∀ l, s.se3? = some l → l = poses a.items
  wf : s.se3?.isSome = true ∨ (s.pos?.isSome = true ∧ s.quat?.isSome = true)
  timed : a.timed = s.stamps.isSome
  stamps : ∀ l, s.stamps = some l → stampsOf a.items = l.map some
  proj : a.projected = s.projected

/-! a cache is absent or holds `x`: the shape `∀ l, o = some l → l = x` of the first three fields of `Inv` -/

theorem cache_ite {α} (b : Bool) (x : α) : ∀ l, (if b then some x else none) = some l → l = x := by
  cases b
  · nofun
  · exact fun l hl => (Option.some.inj hl).symm

theorem cache_map {α β} {o : Option α} {x : α} (h : ∀ l, o = some l → l = x) (g : α → β) :
    ∀ l, o.map g = some l → l = g x := by
  intro l hl
  obtain ⟨l0, h0, rfl⟩ := Option.map_eq_some_iff.mp hl
  rw [h l0 h0]

theorem Inv.getSe3 {s : St} {a : ATraj} (h : Inv s a) : s.getSe3 = poses a.items := by
  unfold St.getSe3
  cases hs : s.se3? with
  | some l => exact h.se3 l hs
  | none =>
      obtain ⟨hp, hq⟩ := h.wf.resolve_left (by simp [hs])
      obtain ⟨l1, h1⟩ := Option.isSome_iff_exists.mp hp
      obtain ⟨l2, h2⟩ := Option.isSome_iff_exists.mp hq
      rw [h1, h2, h.pos l1 h1, h.quat l2 h2]
      exact zipWith_rot_t _

theorem Inv.se3_of_no_pos {s : St} {a : ATraj} (h : Inv s a) (hp : s.pos? = none ∨ s.quat? = none) :
    s.se3? = some (poses a.items) := by
  rcases h.wf with hw | hw
  · obtain ⟨l, hl⟩ := Option.isSome_iff_exists.mp hw
    rw [hl, h.se3 l hl]
  · rcases hp with hp | hp <;> simp [hp] at hw

theorem Inv.getPos {s : St} {a : ATraj} (h : Inv s a) : s.getPos = (poses a.items).map (·.t) := by
  unfold St.getPos
  cases hs : s.pos? with
  | some l => exact h.pos l hs
  | none => simp [h.se3_of_no_pos (Or.inl hs)]

theorem Inv.getQuat {s : St} {a : ATraj} (h : Inv s a) : s.getQuat = (poses a.items).map (·.rot) := by
  unfold St.getQuat
  cases hs : s.quat? with
  | some l => exact h.quat l hs
  | none => simp [h.se3_of_no_pos (Or.inr hs)]

theorem Inv.numPoses {s : St} {a : ATraj} (h : Inv s a) : s.numPoses = a.items.length := by
  unfold St.numPoses
  cases hs : s.se3? with
  | some l => simp [h.se3 l hs]
  | none => simp [h.getPos]

theorem Inv.stampsView {s : St} {a : ATraj} (h : Inv s a) : a.stampsView = s.stamps := by
  unfold ATraj.stampsView
  cases hs : s.stamps with
  | none => simp [h.timed, hs]
  | some l =>
      have e : (stampsOf a.items).filterMap id = l := by
        rw [h.stamps l hs, List.filterMap_map]; exact List.filterMap_some
      rw [stampsOf, List.filterMap_map] at e
      rw [h.timed, hs]; exact congrArg some e

theorem Inv.forceSe3 {s : St} {a : ATraj} (h : Inv s a) : Inv s.forceSe3 a :=
  { h with se3 := fun _ hl => Option.some.inj hl ▸ h.getSe3, wf := Or.inl rfl }

theorem Inv.forcePos {s : St} {a : ATraj} (h : Inv s a) : Inv s.forcePos a :=
  { h with pos := fun _ hl => Option.some.inj hl ▸ h.getPos, wf := h.wf.imp_right fun hw => ⟨rfl, hw.2⟩ }

theorem Inv.forceQuat {s : St} {a : ATraj} (h : Inv s a) : Inv s.forceQuat a :=
  { h with quat := fun _ hl => Option.some.inj hl ▸ h.getQuat, wf := h.wf.imp_right fun hw => ⟨hw.1, rfl⟩ }

theorem Inv.view {s : St} {a : ATraj} (h : Inv s a) (v : View) : Inv (s.view v).1 a ∧ (s.view v).2 = a.view v := by
  cases v with
  | pos => exact ⟨h.forcePos, congrArg Out.vecs h.getPos⟩
  | quat => exact ⟨h.forceQuat, congrArg Out.rots h.getQuat⟩
  | se3 => exact ⟨h.forceSe3, congrArg Out.poses h.getSe3⟩
  | stamps => exact ⟨h, congrArg Out.stamps h.stampsView.symm⟩
  | num => exact ⟨h, congrArg Out.num h.numPoses⟩
  | dist => exact ⟨h.forcePos, congrArg (fun l => Out.rats (segSq l)) h.getPos⟩

theorem Inv.check {s : St} {a : ATraj} (h : Inv s a) :
    Inv s.check.1 a ∧ s.check.2 = checkOut (poses a.items) a.stampsView := by
  have h3 := h.forcePos.forceQuat.forceSe3
  have e : s.forcePos.forceQuat.forceSe3.stamps = a.stampsView := h.stampsView.symm
  simp only [St.check, checkOut, h.numPoses, poses_length]
  split
  · exact ⟨h, rfl⟩
  · refine ⟨h3, ?_⟩
    rw [h3.getSe3, h3.getPos, h3.getQuat, e]
    simp

/-- the common shape of `transform()` (`refresh = true`) and `project()` (`refresh = false`): the matrices are forced
and rewritten by `f`; the two other caches are recomputed from the new matrices or deleted -/
theorem Inv.rewrite {s : St} {a : ATraj} (h : Inv s a) (f : List P → List P)
    (hf : ∀ ps, (f ps).length = ps.length) (refresh : Bool) (pr : Bool) :
    Inv { s with se3? := some (f s.getSe3),
                 pos? := if refresh then some ((f s.getSe3).map (·.t)) else none,
                 quat? := if refresh then some ((f s.getSe3).map (·.rot)) else none,
                 projected := pr }
        { a with items := onPoses f a.items, projected := pr } := by
  have hp : poses (onPoses f a.items) = f s.getSe3 := by rw [poses_onPoses hf, h.getSe3]
  refine ⟨?_, ?_, ?_, Or.inl rfl, h.timed, ?_, rfl⟩
  · rw [hp]; exact cache_ite refresh _
  · rw [hp]; exact cache_ite refresh _
  · rw [hp]; exact cache_ite true _
  · rw [stampsOf_onPoses hf]; exact h.stamps

theorem Inv.transform {s : St} {a : ATraj} (h : Inv s a) (m : Mode) (T : P) (norm : Option Rat) :
    Inv (s.transform m T norm) { a with items := onPoses (transformFull m T norm) a.items } := by
  rw [h.proj]
  exact h.rewrite (transformFull m T norm) (transformFull_length m T norm) true s.projected

theorem Inv.project {s : St} {a : ATraj} (h : Inv s a) (nd : Nat) (rots : List (M3 Rat)) :
    Inv (s.project nd rots) { a with items := onPoses (projPoses nd rots) a.items, projected := true } :=
  h.rewrite (projPoses nd rots) (projPoses_length nd rots) false true

theorem scale_views (c : Rat) (ps : List P) :
    (ps.map (scalePose c)).map (·.t) = (ps.map (·.t)).map (V3.smul c) ∧
    (ps.map (scalePose c)).map (·.rot) = ps.map (·.rot) := by
  constructor <;> simp [List.map_map, Function.comp_def, scalePose]

theorem Inv.scale {s : St} {a : ATraj} (h : Inv s a) (c : Rat) :
    Inv (s.scale c) { a with items := onPoses (List.map (scalePose c)) a.items } := by
  have hf : ∀ ps : List P, (ps.map (scalePose c)).length = ps.length := fun _ => List.length_map _
  have hp := poses_onPoses hf a.items
  have hv := scale_views c (poses a.items)
  refine ⟨?_, ?_, ?_, by simpa [St.scale] using h.wf, h.timed, ?_, h.proj⟩
  · rw [hp, hv.1]; exact cache_map h.pos _
  · rw [hp, hv.2]; exact h.quat
  · rw [hp]; exact cache_map h.se3 _
  · rw [stampsOf_onPoses hf]; exact h.stamps

theorem poses_reduceIds (l : List Item) (ids : List Nat) : poses (reduceIds l ids) = reduceIds (poses l) ids :=
  (reduceIds_map _ _ _).symm

theorem Inv.reduce {s : St} {a : ATraj} (h : Inv s a) (ids : List Nat) :
    Inv (s.reduce ids) { a with items := reduceIds a.items ids } := by
  refine ⟨?_, ?_, ?_, by simpa [St.reduce] using h.wf, by simpa [St.reduce] using h.timed, ?_, h.proj⟩
  · simp only [poses_reduceIds, ← reduceIds_map]; exact cache_map h.pos (reduceIds · ids)
  · simp only [poses_reduceIds, ← reduceIds_map]; exact cache_map h.quat (reduceIds · ids)
  · rw [poses_reduceIds]; exact cache_map h.se3 (reduceIds · ids)
  · intro l hl
    obtain ⟨l0, h0, rfl⟩ := Option.map_eq_some_iff.mp hl
    show stampsOf (reduceIds a.items ids) = _
    rw [stampsOf, ← reduceIds_map, ← stampsOf, h.stamps l0 h0, reduceIds_map]

theorem Inv.align {s : St} {a : ATraj} (h : Inv s a) (am : AlignMode) (r : M3 Rat) (t : V3 Rat) (c : Rat)
    (norm : Option Rat) :
    Inv (s.align am r t c norm) { a with items := alignItems am r t c norm a.items } := by
  cases am with
  | rigid => exact h.forcePos.transform .left (se3Of r t) norm
  | withScale => exact (h.forcePos.scale c).transform .left (se3Of r t) norm
  | onlyScale => exact h.forcePos.scale c

theorem mkItems_views (ps : List P) (st : Option (List Rat)) (hl : ∀ l, st = some l → l.length = ps.length) :
    poses (mkItems ps st) = ps ∧ ∀ l, st = some l → stampsOf (mkItems ps st) = l.map some := by
  cases st with
  | none => simp [mkItems, poses, List.map_map, Function.comp_def]
  | some l =>
      have hlen := hl l rfl
      constructor
      · rw [poses, mkItems, List.map_zipWith]
        exact (zipWith_fst id (by omega)).trans (List.map_id _)
      · intro l' hl'
        cases hl'
        rw [stampsOf, mkItems, List.map_zipWith]
        exact zipWith_snd _ (by omega)

/-- the views of `xyz_quat_wxyz_to_se3_poses(pos, quat)` -/
theorem zipWith_se3Of_views {rots : List (M3 Rat)} {xyz : List (V3 Rat)} (h : rots.length = xyz.length) :
    (List.zipWith se3Of rots xyz).map (·.t) = xyz ∧ (List.zipWith se3Of rots xyz).map (·.rot) = rots := by
  simp only [List.map_zipWith]
  exact ⟨(zipWith_snd id (by omega)).trans (List.map_id _), (zipWith_fst id (by omega)).trans (List.map_id _)⟩

/-! ### proper rigid poses (what `lie.is_se3` accepts: `RᵀR = I`, `det R = 1`) -/

def Proper (p : P) : Prop := IsRot p.rot

theorem IsRot.transpose {a : M3 Rat} (ha : IsRot a) : IsRot a.transpose := Evo.IsRot.transpose ha

theorem Proper.mul {a b : P} (ha : Proper a) (hb : Proper b) : Proper (a.mul b) := IsRot.mul ha hb
theorem Proper.inv {a : P} (ha : Proper a) : Proper a.inv := IsRot.transpose ha
theorem Proper.rel {a b : P} (ha : Proper a) (hb : Proper b) : Proper (a.rel b) := Proper.mul ha.inv hb
theorem Proper.rigid {a : P} (ha : Proper a) : IsRigid a := ha.1

theorem unscale_smul (k : Rat) (hk : k ≠ 0) (a : M3 Rat) : M3.smul (1 / k) (M3.smul k a) = a :=
  M3.smul_smul_cancel (one_div_mul_cancel hk) a

theorem propagate_head (p0 : P) (ds : List P) : ∃ tl, propagate p0 ds = p0 :: tl := by
  cases ds <;> exact ⟨_, rfl⟩

theorem relsOf_mem_proper {ps : List P} (h : ∀ p ∈ ps, Proper p) : ∀ d ∈ relsOf ps, Proper d := by
  induction ps with
  | nil => simp [relsOf]
  | cons a r ih =>
      cases r with
      | nil => simp [relsOf]
      | cons b r' =>
          obtain ⟨ha, hr⟩ := List.forall_mem_cons.mp h
          exact List.forall_mem_cons.mpr ⟨ha.rel (hr b List.mem_cons_self), ih hr⟩

theorem rels_mul_proper {ps : List P} {T : P} (hp : ∀ p ∈ ps, Proper p) (hT : Proper T) :
    ∀ d ∈ (relsOf ps).map (fun d => d.mul T), Proper d :=
  List.forall_mem_map.mpr fun d hd => (relsOf_mem_proper hp d hd).mul hT

theorem propagate_proper {p0 : P} {ds : List P} (h0 : Proper p0) (hd : ∀ d ∈ ds, Proper d) :
    ∀ p ∈ propagate p0 ds, Proper p := by
  induction ds generalizing p0 with
  | nil => exact List.forall_mem_singleton.mpr h0
  | cons d r ih =>
      obtain ⟨hd0, hdr⟩ := List.forall_mem_cons.mp hd
      exact List.forall_mem_cons.mpr ⟨h0, ih (h0.mul hd0) hdr⟩

theorem relsOf_propagate {p0 : P} {ds : List P} (h0 : Proper p0) (hd : ∀ d ∈ ds, Proper d) :
    relsOf (propagate p0 ds) = ds := by
  induction ds generalizing p0 with
  | nil => rfl
  | cons d r ih =>
      obtain ⟨hd0, hdr⟩ := List.forall_mem_cons.mp hd
      obtain ⟨tl, htl⟩ := propagate_head (p0.mul d) r
      have := ih (h0.mul hd0) hdr
      simp only [propagate, htl, relsOf] at this ⊢
      rw [this]
      congr 1
      unfold Pose.rel
      rw [← Pose.mul_assoc', Pose.inv_mul_self h0.rigid, Pose.one_mul']

theorem unscale_proper {k : Rat} (hk : k ≠ 0) {q : M3 Rat} (hq : IsRot q) {p : P} (hp : p.rot = M3.smul k q) :
    Proper (unscale k p) := by
  simp only [Proper, unscale, hp, unscale_smul k hk]; exact hq

/-- Sim(3) propagation: a chain whose steps have rotation blocks `s·(rotation)` stays proper after
dividing the `i`-th block by `s^(e+i)` -/
theorem unscalePow_propagate_proper (s : Rat) (hs : s ≠ 0) {ds : List P} (e : Nat) (p0 : P) (q0 : M3 Rat)
    (h0 : IsRot q0) (hp0 : p0.rot = M3.smul (s ^ e) q0)
    (hd : ∀ d ∈ ds, ∃ q, IsRot q ∧ d.rot = M3.smul s q) :
    ∀ p ∈ unscalePow s e (propagate p0 ds), Proper p := by
  induction ds generalizing e p0 q0 with
  | nil => exact List.forall_mem_singleton.mpr (unscale_proper (pow_ne_zero e hs) h0 hp0)
  | cons d r ih =>
      obtain ⟨⟨q, hq, hdq⟩, hdr⟩ := List.forall_mem_cons.mp hd
      have hrot : (p0.mul d).rot = M3.smul (s ^ (e + 1)) (q0.mul q) := by
        simp only [Pose.mul, hp0, hdq]; rw [M3.smul_mul, M3.mul_smul, M3.smul_smul, pow_succ]
      exact List.forall_mem_cons.mpr ⟨unscale_proper (pow_ne_zero e hs) h0 hp0,
        ih (e + 1) (p0.mul d) (q0.mul q) (IsRot.mul h0 hq) hrot hdr⟩

theorem projPoses_proper {nd : Nat} {qs : List (M3 Rat)} {ps : List P} (hq : ∀ q ∈ qs, IsRot q)
    (hp : ∀ p ∈ ps, Proper p) : ∀ p ∈ projPoses nd qs ps, Proper p := by
  induction ps generalizing qs with
  | nil => cases qs <;> simp [projPoses]
  | cons a r ih =>
      obtain ⟨ha, hr⟩ := List.forall_mem_cons.mp hp
      cases qs with
      | nil => exact List.forall_mem_cons.mpr ⟨ha, ih hq hr⟩
      | cons q qs' =>
          obtain ⟨hq0, hqr⟩ := List.forall_mem_cons.mp hq
          exact List.forall_mem_cons.mpr ⟨hq0, ih hqr hr⟩

theorem onPoses_proper {f : List P → List P} {l : List Item} (hf : ∀ ps, (f ps).length = ps.length)
    (h : ∀ p ∈ f (poses l), Proper p) : ∀ p ∈ poses (onPoses f l), Proper p := by
  rw [poses_onPoses hf l]; exact h

theorem scale_proper {l : List Item} (hp : ∀ p ∈ poses l, Proper p) (c : Rat) :
    ∀ p ∈ poses (onPoses (List.map (scalePose c)) l), Proper p :=
  onPoses_proper (fun _ => List.length_map _) (List.forall_mem_map.mpr hp)

theorem reduceIds_proper {l : List Item} (hp : ∀ p ∈ poses l, Proper p) (ids : List Nat) :
    ∀ p ∈ poses (reduceIds l ids), Proper p := by
  rw [poses_reduceIds]; exact fun p h => hp p (mem_reduceIds h)

theorem orthoResid_zero {r : M3 Rat} (h : IsRot r) : orthoResid r = 0 := by
  have h1 : r.transpose.mul r = M3.one := h.1
  have h2 : r.det = 1 := h.2
  unfold orthoResid
  rw [h1, h2]
  decide +kernel

theorem properRot_true {r : M3 Rat} (h : IsRot r) : properRot r = true := by
  have h1 : r.transpose.mul r = M3.one := h.1
  simp [properRot, h1, h.2]

theorem maxResid_zero {ps : List P} (h : ∀ p ∈ ps, Proper p) : maxResid ps = 0 := by
  unfold maxResid
  induction ps with
  | nil => rfl
  | cons a r ih =>
      obtain ⟨ha, hr⟩ := List.forall_mem_cons.mp h
      rw [List.foldl_cons, orthoResid_zero ha, if_neg (lt_irrefl _)]
      exact ih hr

/-- `strictAsc` compares neighbours only; `<` is transitive -/
theorem strictAsc_iff (l : List Rat) : strictAsc l = true ↔ l.Pairwise (· < ·) := by
  rw [← List.isChain_iff_pairwise]
  induction l with
  | nil => simp [strictAsc]
  | cons a r ih =>
      cases r with
      | nil => simp [strictAsc]
      | cons b r' => rw [strictAsc, Bool.and_eq_true, decide_eq_true_eq, ih, List.isChain_cons_cons]

theorem checkOut_proper {ps : List P} (hp : ∀ p ∈ ps, Proper p) (st : Option (List Rat)) :
    ∃ b, checkOut ps st = .chk true true 0 b ∧
      ((∀ l, st = some l → l.length = ps.length ∧ l.Pairwise (· < ·)) → b = true) := by
  unfold checkOut
  split
  · exact ⟨true, rfl, fun _ => rfl⟩
  · rw [maxResid_zero hp, List.all_eq_true.mpr fun p hpm => properRot_true (hp p hpm)]
    refine ⟨_, rfl, fun h => ?_⟩
    cases st with
    | none => rfl
    | some l => simp [(h l rfl).1, (strictAsc_iff l).mpr (h l rfl).2]

theorem normIdx_lt {n : Nat} {i : Int} {j : Nat} (h : normIdx n i = some j) : j < n := by
  unfold normIdx at h
  split_ifs at h <;> cases h <;> omega

theorem normIds_spec {n : Nat} {ids : List Int} {l : List Nat} (h : normIds n ids = some l) :
    l.length = ids.length ∧ ∀ j ∈ l, j < n := by
  induction ids generalizing l with
  | nil => cases h; exact ⟨rfl, nofun⟩
  | cons i r ih =>
      simp only [normIds] at h
      split at h
      · next j l' hi hr =>
        cases h
        obtain ⟨h1, h2⟩ := ih hr
        exact ⟨congrArg (· + 1) h1, List.forall_mem_cons.mpr ⟨normIdx_lt hi, h2⟩⟩
      · cases h

end Evo.Traj
