/-
How the derived quantities of a trajectory (`path_length`, `distances`, `speeds`: functions of the
squared step lengths `segSq`; `duration`: a function of the stamps) change under the operations of
`Model/Traj.lean`: helper lemmas for the last section of `Props/C08.lean`.
-/
import EvoModel.Lemmas.Traj
namespace Evo.Traj
open Evo

theorem segSq_eq (l : List (V3 Rat)) : segSq l = List.zipWith (fun a b => V3.normSq (V3.sub a b)) l l.tail :=
  eq_zipWith_tail rfl (fun _ => rfl) (fun _ _ _ => rfl) l

theorem segSq_map_of_dist (f : V3 Rat → V3 Rat) (k : Rat)
    (hf : ∀ a b, V3.normSq (V3.sub (f a) (f b)) = k * V3.normSq (V3.sub a b)) (l : List (V3 Rat)) :
    segSq (l.map f) = (segSq l).map (k * ·) := by
  simp only [segSq_eq, ← List.map_tail, List.zipWith_map, List.map_zipWith, hf]

theorem segSq_map_of_isometry (f : V3 Rat → V3 Rat)
    (hf : ∀ a b, V3.normSq (V3.sub (f a) (f b)) = V3.normSq (V3.sub a b)) (l : List (V3 Rat)) :
    segSq (l.map f) = segSq l := by
  have := segSq_map_of_dist f 1 (fun a b => by rw [hf, one_mul]) l
  rw [this]
  simp

theorem similarity_dist {R : M3 Rat} (hR : IsOrtho R) (s : Rat) (t a b : V3 Rat) :
    V3.normSq (V3.sub (V3.add ((M3.smul s R).mulVec a) t) (V3.add ((M3.smul s R).mulVec b) t))
      = s * s * V3.normSq (V3.sub a b) := by
  rw [normSq_sim_sub hR, pow_two]

theorem rigid_dist {R : M3 Rat} (hR : IsOrtho R) (t a b : V3 Rat) :
    V3.normSq (V3.sub (V3.add (R.mulVec a) t) (V3.add (R.mulVec b) t)) = V3.normSq (V3.sub a b) := by
  simpa only [M3.one_smul', one_mul] using similarity_dist hR 1 t a b

theorem scale_dist (c : Rat) (a b : V3 Rat) :
    V3.normSq (V3.sub (V3.smul c a) (V3.smul c b)) = c * c * V3.normSq (V3.sub a b) := by
  lin_unfold; ring

theorem positions_mul_left (T : P) (ps : List P) :
    (ps.map (fun p => T.mul p)).map (·.t) = (ps.map (·.t)).map (fun x => V3.add (T.rot.mulVec x) T.t) := by
  simp [List.map_map, Function.comp_def, Pose.mul]

/-- the Sim(3) normalisation divides the rotation block only, so the positions are those of the unnormalised product -/
theorem positions_sim3_left (R : M3 Rat) (t : V3 Rat) (s : Rat) (ps : List P) :
    (transformFull .left (Pose.sim3 R t s) (some s) ps).map (·.t)
      = (ps.map (·.t)).map (fun x => V3.add ((M3.smul s R).mulVec x) t) := by
  simp [transformFull, normalise, transformPoses, List.map_map, Function.comp_def, unscale, Pose.mul, Pose.sim3]

theorem segSq_length (l : List (V3 Rat)) : (segSq l).length = l.length - 1 := by
  rw [segSq_eq, length_zipWith_tail]

theorem segSq_drop (l : List (V3 Rat)) (i : Nat) : segSq (l.drop i) = (segSq l).drop i := by
  simp only [segSq_eq, List.drop_zipWith, List.tail_drop, List.drop_tail]

theorem segSq_take : ∀ (l : List (V3 Rat)) (k : Nat), segSq (l.take k) = (segSq l).take (k - 1)
  | _, 0 => rfl
  | [], _ + 1 => by rw [List.take_nil]; exact List.take_nil.symm
  | [_], _ + 1 => by rw [List.take_succ_cons, List.take_nil]; exact List.take_nil.symm
  | _ :: _ :: _, 1 => rfl
  | a :: b :: r, k + 2 => congrArg (V3.normSq (V3.sub a b) :: ·) (segSq_take (b :: r) (k + 1))

theorem reduceIds_range' {α} (l : List α) (i k : Nat) :
    reduceIds l (List.range' i k) = (l.drop i).take k := Evo.reduceIds_range' l i k

/-- the operations that rewrite the poses in place (`specStep` is an `onPoses …`) -/
def Op.isGeometric : Op → Bool
  | .transform .. => true
  | .scale _ => true
  | .align .. => true
  | .alignOrigin .. => true
  | .project .. => true
  | _ => false

/-- the operations that select items (`specStep` is a `reduceIds …`) -/
def Op.isSelection : Op → Bool
  | .reduce _ => true
  | .reduceInt _ => true
  | .downsample .. => true
  | .motionFilter _ => true
  | .crop _ => true
  | _ => false

theorem stampsOf_alignItems (am : AlignMode) (r : M3 Rat) (t : V3 Rat) (c : Rat) (norm : Option Rat)
    (l : List Item) : stampsOf (alignItems am r t c norm l) = stampsOf l := by
  have hs := stampsOf_onPoses (f := List.map (scalePose c)) (fun _ => List.length_map _)
  have ht := stampsOf_onPoses (transformFull_length .left (se3Of r t) norm)
  cases am with
  | rigid => exact ht l
  | withScale => exact (ht _).trans (hs l)
  | onlyScale => exact hs l

theorem stampsOf_specStep_of_not_selection (a : ATraj) (op : Op) (h : op.isSelection = false) :
    stampsOf (specStep a op).1.items = stampsOf a.items := by
  cases op with
  | transform m T norm => exact stampsOf_onPoses (transformFull_length m T norm) _
  | scale c => exact stampsOf_onPoses (fun _ => List.length_map _) _
  | reduce ids => cases h
  | reduceInt ids => cases h
  | downsample n ids => cases h
  | motionFilter ids => cases h
  | crop ids => cases h
  | align am r t c norm => exact stampsOf_alignItems _ _ _ _ _ _
  | alignOrigin ref norm =>
      simp only [specStep]
      cases poses a.items with
      | nil => rfl
      | cons p0 r => exact stampsOf_onPoses (transformFull_length _ _ _) _
  | project nd rots =>
      simp only [specStep]
      split
      · rfl
      · exact stampsOf_onPoses (projPoses_length nd rots) _
  | copy => rfl
  | read v => rfl
  | check => rfl

theorem Op.not_selection_of_geometric {op : Op} (h : op.isGeometric = true) : op.isSelection = false := by
  cases op <;> simp_all [Op.isGeometric, Op.isSelection]

end Evo.Traj
