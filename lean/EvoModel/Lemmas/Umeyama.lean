/-
Lemmas for C03 (Umeyama alignment). `mean`, `var`, `cov` enter through three facts only: centred data
sum to zero, their squared norms sum to `n·var`, and `Σ ỹᵢ·(M x̃ᵢ) = n·tr(Mᵀ·cov)` for every matrix `M`.
With them completing the square (`resid_decomp`) gives, for orthonormal `R`,
`resid = n·(σ_y² + c²σ_x² − 2c·tr(Rᵀ·cov)) + n·‖t − (μ_y − cRμ_x)‖²`. Hence the excess residual of any
competitor over an output with the exact certificate (`Cert`) is `n` times three non-negative defects, of
scale, rotation (trace maximality) and translation (`Cert.resid_sub`): optimality. Collinear data are
refused because their covariance is an outer product (`rankLt2_of_collinear_fst/_snd`; the degenerate
classes of the model are special cases). On noise-free data optimality forces the residual to 0, and three
non-collinear points fix a similarity.
-/
import EvoModel.Lemmas.TraceMax
import EvoModel.Lemmas.Argmin
import Mathlib.Algebra.BigOperators.Ring.List
namespace Evo.Ume
open Evo

section ring
variable {K : Type} [CommRing K]

theorem simApply_sub (R : M3 K) (t : V3 K) (c : K) (a b : V3 K) :
    V3.sub (simApply R t c a) (simApply R t c b) = V3.smul c (R.mulVec (V3.sub a b)) := by
  rw [simApply, simApply, ← M3.smul_mulVec, ← M3.smul_mulVec, M3.affine_sub, M3.smul_mulVec]

theorem simApply_comp (R' R : M3 K) (t' t : V3 K) (c' c : K) (p : V3 K) :
    simApply R' t' c' (simApply R t c p)
      = simApply (R'.mul R) (V3.add (V3.smul c' (R'.mulVec t)) t') (c' * c) p := by
  simp only [simApply, M3.mul, M3.mulVec, V3.add, V3.smul, V3.mk.injEq]; and_intros <;> ring

/-- `congrArg` fits because `(bmat A).transpose` unfolds to `bmat A.transpose`, entry by entry -/
theorem bmat_symm {A : M3 K} (h : A.transpose = A) : (bmat A).transpose = bmat A :=
  congrArg bmat h

end ring

section field
variable {K : Type} [Field K]

theorem normSq_smul_mulVec {R : M3 K} (hR : IsOrtho R) (c : K) (v : V3 K) :
    V3.normSq (V3.smul c (R.mulVec v)) = c ^ 2 * V3.normSq v := by
  rw [V3.normSq_smul, normSq_mulVec_of_ortho hR]

theorem sumMap_nil {α : Type} (f : α → K) : sumMap f [] = 0 := rfl
theorem sumMap_cons {α : Type} (f : α → K) (a : α) (l : List α) : sumMap f (a :: l) = f a + sumMap f l := rfl

theorem sumMap_eq {α : Type} (f : α → K) (l : List α) : sumMap f l = (l.map f).sum := by
  induction l with
  | nil => rfl
  | cons a l ih => rw [sumMap_cons, ih, List.map_cons, List.sum_cons]

theorem sumMap_congr_mem {α : Type} {f g : α → K} {l : List α} (h : ∀ a ∈ l, f a = g a) :
    sumMap f l = sumMap g l := by
  rw [sumMap_eq, sumMap_eq, List.map_congr_left h]

theorem sumMap_congr {α : Type} {f g : α → K} (l : List α) (h : ∀ a, f a = g a) : sumMap f l = sumMap g l :=
  sumMap_congr_mem (fun a _ => h a)

theorem sumMap_add {α : Type} (f g : α → K) (l : List α) :
    sumMap (fun a => f a + g a) l = sumMap f l + sumMap g l := by
  simp only [sumMap_eq, List.sum_map_add]

theorem sumMap_sub {α : Type} (f g : α → K) (l : List α) :
    sumMap (fun a => f a - g a) l = sumMap f l - sumMap g l :=
  eq_sub_of_add_eq (by rw [← sumMap_add]; exact sumMap_congr l fun a => sub_add_cancel _ _)

theorem sumMap_mul_left {α : Type} (c : K) (f : α → K) (l : List α) :
    sumMap (fun a => c * f a) l = c * sumMap f l := by
  simp only [sumMap_eq, List.sum_map_mul_left]

theorem sumMap_mul_right {α : Type} (f : α → K) (c : K) (l : List α) :
    sumMap (fun a => f a * c) l = sumMap f l * c := by
  simp only [sumMap_eq, List.sum_map_mul_right]

theorem sumMap_const {α : Type} (c : K) (l : List α) : sumMap (fun _ => c) l = cnt l * c := by
  rw [sumMap_eq, List.map_const', List.sum_replicate, nsmul_eq_mul]; rfl

theorem sumMap_map {α β : Type} (g : α → β) (f : β → K) (l : List α) : sumMap f (l.map g) = sumMap (fun a => f (g a)) l := by
  simp only [sumMap_eq, List.map_map, Function.comp_def]

theorem sumMap_perm {α : Type} (f : α → K) {l l' : List α} (h : l.Perm l') : sumMap f l = sumMap f l' := by
  simp only [sumMap_eq, (h.map f).sum_eq]

theorem sumMap_zip_fst {α β : Type} (f : α → K) (x : List α) (y : List β) (h : x.length = y.length) :
    sumMap (fun p : α × β => f p.1) (x.zip y) = sumMap f x := by
  rw [← sumMap_map Prod.fst f, List.map_fst_zip h.le]

theorem sumMap_zip_snd {α β : Type} (f : β → K) (x : List α) (y : List β) (h : x.length = y.length) :
    sumMap (fun p : α × β => f p.2) (x.zip y) = sumMap f y := by
  rw [← sumMap_map Prod.snd f, List.map_snd_zip h.ge]

theorem cnt_zip {α β : Type} (x : List α) (y : List β) (h : x.length = y.length) :
    (cnt (x.zip y) : K) = cnt x := by
  simp [cnt, List.length_zip, h]

theorem sumMap_center_fst {α β : Type} (f : α → K) (x : List α) (y : List β) (h : x.length = y.length)
    (hn : (cnt x : K) ≠ 0) :
    sumMap (fun p : α × β => f p.1 - sumMap f x / cnt x) (x.zip y) = 0 := by
  rw [sumMap_sub, sumMap_zip_fst f x y h, sumMap_const, cnt_zip x y h]
  field_simp
  ring

theorem sumMap_center_snd {α β : Type} (f : β → K) (x : List α) (y : List β) (h : x.length = y.length)
    (hn : (cnt x : K) ≠ 0) :
    sumMap (fun p : α × β => f p.2 - sumMap f y / cnt y) (x.zip y) = 0 := by
  have hc : (cnt y : K) = cnt x := congrArg Nat.cast h.symm
  rw [sumMap_sub, sumMap_zip_snd f x y h, sumMap_const, cnt_zip x y h, hc]
  field_simp
  ring

theorem sumMap_dot_center_fst {β : Type} (x : List (V3 K)) (y : List β) (h : x.length = y.length)
    (hn : (cnt x : K) ≠ 0) (d : V3 K) :
    sumMap (fun p : V3 K × β => V3.dot (V3.sub p.1 (mean x)) d) (x.zip y) = 0 := by
  simp only [V3.dot, V3.sub, mean, sumMap_add, sumMap_mul_right]
  rw [sumMap_center_fst V3.x x y h hn, sumMap_center_fst V3.y x y h hn, sumMap_center_fst V3.z x y h hn]
  ring

theorem sumMap_dot_center_snd {α : Type} (x : List α) (y : List (V3 K)) (h : x.length = y.length)
    (hn : (cnt x : K) ≠ 0) (d : V3 K) :
    sumMap (fun p : α × V3 K => V3.dot (V3.sub p.2 (mean y)) d) (x.zip y) = 0 := by
  simp only [V3.dot, V3.sub, mean, sumMap_add, sumMap_mul_right]
  rw [sumMap_center_snd V3.x x y h hn, sumMap_center_snd V3.y x y h hn, sumMap_center_snd V3.z x y h hn]
  ring

theorem sumMap_normSq_center (x : List (V3 K)) (hn : (cnt x : K) ≠ 0) :
    sumMap (fun q => V3.normSq (V3.sub q (mean x))) x = cnt x * var x := by
  unfold var; field_simp

theorem sumMap_dot_mulVec_center (x y : List (V3 K)) (hn : (cnt x : K) ≠ 0) (M : M3 K) :
    sumMap (fun p : V3 K × V3 K => V3.dot (V3.sub p.2 (mean y)) (M.mulVec (V3.sub p.1 (mean x)))) (x.zip y)
      = cnt x * (M.transpose.mul (cov x y)).trace := by
  have pw : ∀ p : V3 K × V3 K, V3.dot (V3.sub p.2 (mean y)) (M.mulVec (V3.sub p.1 (mean x)))
      = M.a00 * ((V3.sub p.2 (mean y)).x * (V3.sub p.1 (mean x)).x)
        + M.a01 * ((V3.sub p.2 (mean y)).x * (V3.sub p.1 (mean x)).y)
        + M.a02 * ((V3.sub p.2 (mean y)).x * (V3.sub p.1 (mean x)).z)
        + M.a10 * ((V3.sub p.2 (mean y)).y * (V3.sub p.1 (mean x)).x)
        + M.a11 * ((V3.sub p.2 (mean y)).y * (V3.sub p.1 (mean x)).y)
        + M.a12 * ((V3.sub p.2 (mean y)).y * (V3.sub p.1 (mean x)).z)
        + M.a20 * ((V3.sub p.2 (mean y)).z * (V3.sub p.1 (mean x)).x)
        + M.a21 * ((V3.sub p.2 (mean y)).z * (V3.sub p.1 (mean x)).y)
        + M.a22 * ((V3.sub p.2 (mean y)).z * (V3.sub p.1 (mean x)).z) := by
    intro p; simp only [V3.dot, M3.mulVec]; ring
  suffices h : (M.transpose.mul (cov x y)).trace = 1 / cnt x * sumMap (fun p : V3 K × V3 K =>
      V3.dot (V3.sub p.2 (mean y)) (M.mulVec (V3.sub p.1 (mean x)))) (x.zip y) by
    rw [h, ← mul_assoc, mul_one_div_cancel hn, one_mul]
  rw [sumMap_congr _ pw]
  simp only [sumMap_add, sumMap_mul_left, cov, M3.mul, M3.transpose, M3.trace]
  ring

theorem resid_decomp (x y : List (V3 K)) (R : M3 K) (t : V3 K) (c : K)
    (hlen : x.length = y.length) (hn : (cnt x : K) ≠ 0) (hR : IsOrtho R) :
    resid x y R t c = cnt x * (var y + c^2 * var x - 2 * c * (amat x y R).trace)
      + cnt x * V3.normSq (V3.sub t (tFormula x y R c)) := by
  have hcy : (cnt y : K) = cnt x := congrArg Nat.cast hlen.symm
  -- `y − (cRx + t) = (ỹ − cRx̃) − δ` with `δ = t − (μ_y − cRμ_x)`; expand the square, `‖Rx̃‖ = ‖x̃‖`
  have pw : ∀ p : V3 K × V3 K, V3.normSq (V3.sub p.2 (simApply R t c p.1))
      = V3.normSq (V3.sub p.2 (mean y)) + c ^ 2 * V3.normSq (V3.sub p.1 (mean x))
        - 2 * c * V3.dot (V3.sub p.2 (mean y)) (R.mulVec (V3.sub p.1 (mean x)))
        + V3.normSq (V3.sub t (tFormula x y R c))
        - 2 * V3.dot (V3.sub p.2 (mean y)) (V3.sub t (tFormula x y R c))
        + 2 * c * V3.dot (V3.sub p.1 (mean x)) (R.transpose.mulVec (V3.sub t (tFormula x y R c))) := by
    intro p
    have e : V3.sub p.2 (simApply R t c p.1) = V3.sub (V3.sub (V3.sub p.2 (mean y))
        (V3.smul c (R.mulVec (V3.sub p.1 (mean x))))) (V3.sub t (tFormula x y R c)) := by
      ext <;> simp only [simApply, tFormula, V3.sub, V3.add, V3.smul, M3.mulVec] <;> ring
    rw [e, ← normSq_mulVec_of_ortho hR (V3.sub p.1 (mean x))]
    generalize V3.sub p.2 (mean y) = a
    generalize V3.sub p.1 (mean x) = b
    generalize V3.sub t (tFormula x y R c) = d
    simp only [V3.normSq, V3.dot, V3.sub, V3.smul, M3.mulVec, M3.transpose]
    ring
  unfold resid
  rw [sumMap_congr _ pw]
  simp only [sumMap_add, sumMap_sub, sumMap_mul_left, sumMap_const]
  rw [sumMap_dot_center_fst x y hlen hn, sumMap_dot_center_snd x y hlen hn, sumMap_dot_mulVec_center x y hn,
    sumMap_zip_fst (fun q => V3.normSq (V3.sub q (mean x))) x y hlen,
    sumMap_zip_snd (fun q => V3.normSq (V3.sub q (mean y))) x y hlen,
    sumMap_normSq_center x hn, sumMap_normSq_center y (hcy ▸ hn), cnt_zip x y hlen, hcy]
  unfold amat
  ring

theorem amat_eq_mul (x y : List (V3 K)) {R : M3 K} (hR : IsOrtho R) (R' : M3 K) :
    amat x y R' = (R'.transpose.mul R).mul (amat x y R) := by
  unfold amat
  rw [M3.mul_assoc', ← M3.mul_assoc' R, hR.mul_transpose, M3.one_mul']

/-- the right-hand side is sorted by what a certificate controls: the scale equation `cσ_x² = tr A`, trace
maximality, the translation -/
theorem resid_sub_resid (x y : List (V3 K)) (R R' : M3 K) (t t' : V3 K) (c c' : K)
    (hlen : x.length = y.length) (hn : (cnt x : K) ≠ 0) (hR : IsOrtho R) (hR' : IsOrtho R') :
    resid x y R' t' c' - resid x y R t c = cnt x * (var x * (c' - c) ^ 2
      + 2 * ((c' - c) * (c * var x - (amat x y R).trace))
      + 2 * c' * ((amat x y R).trace - (amat x y R').trace)
      + V3.normSq (V3.sub t' (tFormula x y R' c')) - V3.normSq (V3.sub t (tFormula x y R c))) := by
  rw [resid_decomp x y R t c hlen hn hR, resid_decomp x y R' t' c' hlen hn hR']; ring

theorem resid_map_right (x : List (V3 K)) (g : V3 K → V3 K) (R : M3 K) (t : V3 K) (c : K) :
    resid x (x.map g) R t c = sumMap (fun a => V3.normSq (V3.sub (g a) (simApply R t c a))) x := by
  unfold resid
  induction x with
  | nil => rfl
  | cons a x ih => simp only [List.map_cons, List.zip_cons_cons, sumMap_cons, ih]

theorem resid_map_self (x : List (V3 K)) (R : M3 K) (t : V3 K) (c : K) :
    resid x (x.map (simApply R t c)) R t c = 0 := by
  rw [resid_map_right, sumMap_congr x (fun a => V3.normSq_sub_self _), sumMap_const, mul_zero]

end field

section order
variable {K : Type} [Field K] [LinearOrder K] [IsStrictOrderedRing K]

theorem sumMap_nonneg {α : Type} (f : α → K) (l : List α) (h : ∀ a, 0 ≤ f a) : 0 ≤ sumMap f l := by
  rw [sumMap_eq]; exact List.sum_nonneg (List.forall_mem_map.mpr fun a _ => h a)

theorem sumMap_eq_zero_of_nonneg {α : Type} {f : α → K} {l : List α} (hf : ∀ a, 0 ≤ f a)
    (h : sumMap f l = 0) : ∀ a ∈ l, f a = 0 := fun _ ha =>
  List.all_zero_of_le_zero_le_of_sum_eq_zero (List.forall_mem_map.mpr fun a _ => hf a) (sumMap_eq f l ▸ h)
    (List.mem_map_of_mem ha)

theorem cnt_pos {α : Type} (x : List α) (h : x ≠ []) : 0 < (cnt x : K) := by
  have : 0 < x.length := List.length_pos_iff.mpr h
  simpa [cnt] using this

theorem var_nonneg (x : List (V3 K)) : 0 ≤ var x :=
  mul_nonneg (one_div_nonneg.mpr (Nat.cast_nonneg _)) (sumMap_nonneg _ _ (fun _ => V3.normSq_nonneg _))

theorem resid_nonneg (x y : List (V3 K)) (R : M3 K) (t : V3 K) (c : K) : 0 ≤ resid x y R t c :=
  sumMap_nonneg _ _ (fun _ => V3.normSq_nonneg _)

/-- the exact certificate as a proposition: what `umeCert 0 = true` gives (`cert_of_umeCert`) -/
structure Cert (withScale : Bool) (x y : List (V3 K)) (R : M3 K) (t : V3 K) (c : K) : Prop where
  rot : IsRot R
  trans : t = tFormula x y R c
  sym : (amat x y R).transpose = amat x y R
  psd : IsPSD (bmat (amat x y R))
  scale : if withScale = true then (c * var x = (amat x y R).trace ∧ 0 < c) else c = 1

theorem traceMax_of_cert {ws : Bool} {x y : List (V3 K)} {R : M3 K} {t : V3 K} {c : K}
    (h : Cert ws x y R t c) (R' : M3 K) (hR' : IsRot R') :
    (amat x y R').trace ≤ (amat x y R).trace := by
  rw [amat_eq_mul x y h.rot.1]
  exact traceMax _ _ (hR'.transpose.mul h.rot) h.sym h.psd

theorem Cert.scale_pos {ws : Bool} {x y : List (V3 K)} {R : M3 K} {t : V3 K} {c : K}
    (h : Cert ws x y R t c) : 0 < c ∧ (ws = false → c = 1) := by
  have hs := h.scale
  cases ws with
  | true => simp only [if_true] at hs; exact ⟨hs.2, nofun⟩
  | false => simp only [Bool.false_eq_true, if_false] at hs; exact ⟨hs ▸ one_pos, fun _ => hs⟩

theorem Cert.resid_sub {ws : Bool} {x y : List (V3 K)} {R : M3 K} {t : V3 K} {c : K}
    (h : Cert ws x y R t c) (hlen : x.length = y.length) (hne : x ≠ [])
    (R' : M3 K) (t' : V3 K) (c' : K) (hR' : IsRot R') (hc' : if ws = true then 0 ≤ c' else c' = 1) :
    resid x y R' t' c' - resid x y R t c = cnt x * (var x * (c' - c) ^ 2
      + 2 * c' * ((amat x y R).trace - (amat x y R').trace)
      + V3.normSq (V3.sub t' (tFormula x y R' c'))) ∧
    0 ≤ var x * (c' - c) ^ 2 ∧ 0 ≤ 2 * c' * ((amat x y R).trace - (amat x y R').trace) := by
  have hd := resid_sub_resid x y R R' t t' c c' hlen (cnt_pos x hne).ne' h.rot.1 hR'.1
  have hs := h.scale
  have key : (c' - c) * (c * var x - (amat x y R).trace) = 0 ∧ 0 ≤ c' := by
    cases ws with
    | true => simp only [if_true] at hs hc'; exact ⟨by rw [hs.1, sub_self, mul_zero], hc'⟩
    | false =>
      simp only [Bool.false_eq_true, if_false] at hs hc'
      exact ⟨by rw [hs, hc', sub_self, zero_mul], hc' ▸ zero_le_one⟩
  rw [← h.trans, V3.normSq_sub_self, sub_zero, key.1, mul_zero, add_zero] at hd
  exact ⟨hd, mul_nonneg (var_nonneg x) (sq_nonneg _),
    mul_nonneg (mul_nonneg zero_le_two key.2) (sub_nonneg.mpr (traceMax_of_cert h R' hR'))⟩

theorem Cert.optimal {ws : Bool} {x y : List (V3 K)} {R : M3 K} {t : V3 K} {c : K}
    (h : Cert ws x y R t c) (hlen : x.length = y.length) (hne : x ≠ [])
    (R' : M3 K) (t' : V3 K) (c' : K) (hR' : IsRot R') (hc' : if ws = true then 0 ≤ c' else c' = 1) :
    resid x y R t c ≤ resid x y R' t' c' := by
  obtain ⟨hd, a1, a2⟩ := h.resid_sub hlen hne R' t' c' hR' hc'
  rw [← sub_nonneg, hd]
  exact mul_nonneg (cnt_pos x hne).le (add_nonneg (add_nonneg a1 a2) (V3.normSq_nonneg _))

end order

section rat

theorem absR_nonneg (a : Rat) : 0 ≤ absR a := Evo.absR_nonneg a

theorem absR_le_zero {a : Rat} (h : absR a ≤ 0) : a = 0 := abs_nonpos_iff.mp (absR_eq_abs a ▸ h)

theorem absR_le {a e : Rat} (h : absR a ≤ e) : -e ≤ a ∧ a ≤ e := abs_le.mp (absR_eq_abs a ▸ h)

theorem linfV_le_zero {v : V3 Rat} (h : linfV v ≤ 0) : v = V3.zero := by
  simp only [linfV, max_le_iff, absR_eq_abs, abs_nonpos_iff] at h
  exact V3.ext' h.1 h.2.1 h.2.2

theorem linfM_le_zero {m : M3 Rat} (h : linfM m ≤ 0) : m = M3.zero := by
  simp only [linfM, max_le_iff, absR_eq_abs, abs_nonpos_iff] at h
  obtain ⟨⟨⟨h1, h2⟩, h3, h4⟩, ⟨h5, h6⟩, ⟨h7, h8⟩, h9⟩ := h
  exact M3.ext' h1 h2 h3 h4 h5 h6 h7 h8 h9

theorem isRot_of_ortho_det {R : M3 Rat} (h : IsOrtho R) (hd : 1 ≤ R.det) : IsRot R := by
  refine ⟨h, ?_⟩
  have h2 : R.det * R.det = 1 := by
    have := congrArg M3.det h
    rw [M3.det_mul, M3.det_transpose, M3.det_one] at this
    exact this
  nlinarith

theorem cert_of_umeCert {ws : Bool} {x y : List (V3 Rat)} {R : M3 Rat} {t : V3 Rat} {c : Rat}
    (h : umeCert 0 ws x y R t c = true) : Cert ws x y R t c := by
  simp only [umeCert, certOrtho, certDet, certT, certSym, certPsd, Bool.and_eq_true, decide_eq_true_eq, zero_mul,
    neg_zero, sub_zero] at h
  obtain ⟨⟨⟨⟨⟨ho, hd⟩, ht⟩, hs⟩, ⟨⟨⟨⟨⟨p0, p1⟩, p2⟩, p3⟩, p4⟩, p5⟩, p6⟩, hc⟩ := h
  have hS := (M3.eq_of_sub_eq_zero (linfM_le_zero hs)).symm
  refine ⟨isRot_of_ortho_det (M3.eq_of_sub_eq_zero (linfM_le_zero ho)) hd, V3.eq_of_sub_eq_zero (linfV_le_zero ht),
    hS, psd_of_minors _ (bmat_symm hS) p0 p1 p2 p3 p4 p5 p6, ?_⟩
  cases ws with
  | true =>
    simp only [certScale, if_true, Bool.and_eq_true, decide_eq_true_eq, zero_mul] at hc ⊢
    exact ⟨sub_eq_zero.mp (absR_le_zero hc.1), hc.2⟩
  | false => simpa only [certScale, Bool.false_eq_true, if_false, decide_eq_true_eq] using hc

end rat

section refuse

theorem rankLt2_outer (w d : V3 Rat) : rankLt2 (outer w d) = true := by
  simp only [rankLt2, minors2, outer, List.all_cons, List.all_nil, Bool.and_true, Bool.and_eq_true, beq_iff_eq]
  refine ⟨?_, ?_, ?_, ?_, ?_, ?_, ?_, ?_, ?_⟩ <;> ring

theorem rankLt2_of_collinear_fst {x y : List (V3 Rat)} (d : V3 Rat) (lam : V3 Rat → Rat)
    (h : ∀ p ∈ x, V3.sub p (mean x) = V3.smul (lam p) d) : rankLt2 (cov x y) = true := by
  have e : ∀ f : V3 Rat → Rat, ∀ k : V3 Rat → Rat, (∀ v s, k (V3.smul s v) = s * k v) →
      1 / cnt x * sumMap (fun p : V3 Rat × V3 Rat => f (V3.sub p.2 (mean y)) * k (V3.sub p.1 (mean x))) (x.zip y)
        = (1 / cnt x * sumMap (fun p : V3 Rat × V3 Rat => lam p.1 * f (V3.sub p.2 (mean y))) (x.zip y)) * k d := by
    intro f k hk
    rw [mul_assoc, ← sumMap_mul_right]
    congr 1
    apply sumMap_congr_mem
    intro p hp
    rw [h p.1 (List.of_mem_zip hp).1, hk]; ring
  have : cov x y = outer ⟨1 / cnt x * sumMap (fun p : V3 Rat × V3 Rat => lam p.1 * (V3.sub p.2 (mean y)).x) (x.zip y),
      1 / cnt x * sumMap (fun p : V3 Rat × V3 Rat => lam p.1 * (V3.sub p.2 (mean y)).y) (x.zip y),
      1 / cnt x * sumMap (fun p : V3 Rat × V3 Rat => lam p.1 * (V3.sub p.2 (mean y)).z) (x.zip y)⟩ d := by
    ext <;> exact e _ _ fun _ _ => rfl
  rw [this]; exact rankLt2_outer _ _

theorem rankLt2_of_collinear_snd {x y : List (V3 Rat)} (d : V3 Rat) (lam : V3 Rat → Rat)
    (h : ∀ p ∈ y, V3.sub p (mean y) = V3.smul (lam p) d) : rankLt2 (cov x y) = true := by
  have e : ∀ f : V3 Rat → Rat, ∀ k : V3 Rat → Rat, (∀ v s, f (V3.smul s v) = s * f v) →
      1 / cnt x * sumMap (fun p : V3 Rat × V3 Rat => f (V3.sub p.2 (mean y)) * k (V3.sub p.1 (mean x))) (x.zip y)
        = f d * (1 / cnt x * sumMap (fun p : V3 Rat × V3 Rat => lam p.2 * k (V3.sub p.1 (mean x))) (x.zip y)) := by
    intro f k hf
    rw [mul_left_comm (f d), ← sumMap_mul_left (f d)]
    congr 1
    apply sumMap_congr_mem
    intro p hp
    rw [h p.2 (List.of_mem_zip hp).2, hf]; ring
  have : cov x y = outer d ⟨1 / cnt x * sumMap (fun p : V3 Rat × V3 Rat => lam p.2 * (V3.sub p.1 (mean x)).x) (x.zip y),
      1 / cnt x * sumMap (fun p : V3 Rat × V3 Rat => lam p.2 * (V3.sub p.1 (mean x)).y) (x.zip y),
      1 / cnt x * sumMap (fun p : V3 Rat × V3 Rat => lam p.2 * (V3.sub p.1 (mean x)).z) (x.zip y)⟩ := by
    ext <;> exact e _ _ fun _ _ => rfl
  rw [this]; exact rankLt2_outer _ _

theorem mean_of_const {x : List (V3 Rat)} {a : V3 Rat} (hne : x ≠ []) (h : ∀ p ∈ x, p = a) : mean x = a := by
  have hn : (cnt x : Rat) ≠ 0 := (cnt_pos x hne).ne'
  unfold mean
  rw [sumMap_congr_mem (f := V3.x) (g := fun _ => a.x) (fun p hp => by rw [h p hp]),
    sumMap_congr_mem (f := V3.y) (g := fun _ => a.y) (fun p hp => by rw [h p hp]),
    sumMap_congr_mem (f := V3.z) (g := fun _ => a.z) (fun p hp => by rw [h p hp]), sumMap_const, sumMap_const, sumMap_const]
  ext <;> simp only [] <;> field_simp

theorem collinear_of_degenerate {x : List (V3 Rat)} (h : allCoincident x = true ∨ onOneCoordinateAxis x = true) :
    ∃ (d : V3 Rat) (lam : V3 Rat → Rat), ∀ p ∈ x, V3.sub p (mean x) = V3.smul (lam p) d := by
  rcases h with h | h
  · refine ⟨V3.zero, fun _ => 0, ?_⟩
    cases x with
    | nil => nofun
    | cons a l =>
      simp only [allCoincident, List.all_eq_true, beq_iff_eq] at h
      have ha : ∀ p ∈ a :: l, p = a := fun p hp => (List.mem_cons.mp hp).elim id (h p)
      intro p hp
      rw [mean_of_const (List.cons_ne_nil a l) ha, ha p hp]
      ext <;> simp [V3.sub, V3.smul, V3.zero]
  · have m : ∀ f : V3 Rat → Rat, (∀ p ∈ x, f p = 0) → sumMap f x / cnt x = 0 := fun f hf => by
      rw [sumMap_congr_mem hf, sumMap_const, mul_zero, zero_div]
    simp only [onOneCoordinateAxis, Bool.or_eq_true, List.all_eq_true, Bool.and_eq_true, beq_iff_eq] at h
    rcases h with (h | h) | h
    · refine ⟨⟨1, 0, 0⟩, fun p => p.x - (mean x).x, fun p hp => ?_⟩
      ext <;> simp [V3.sub, V3.smul, mean, h p hp, m V3.y (fun p hp => (h p hp).1), m V3.z (fun p hp => (h p hp).2)]
    · refine ⟨⟨0, 1, 0⟩, fun p => p.y - (mean x).y, fun p hp => ?_⟩
      ext <;> simp [V3.sub, V3.smul, mean, h p hp, m V3.x (fun p hp => (h p hp).1), m V3.z (fun p hp => (h p hp).2)]
    · refine ⟨⟨0, 0, 1⟩, fun p => p.z - (mean x).z, fun p hp => ?_⟩
      ext <;> simp [V3.sub, V3.smul, mean, h p hp, m V3.x (fun p hp => (h p hp).1), m V3.y (fun p hp => (h p hp).2)]

end refuse

section nf
variable {K : Type} [Field K] [LinearOrder K] [IsStrictOrderedRing K]

theorem pointwise_of_resid_zero (x : List (V3 K)) (g : V3 K → V3 K) (R : M3 K) (t : V3 K) (c : K)
    (h : resid x (x.map g) R t c = 0) : ∀ a ∈ x, g a = simApply R t c a := by
  rw [resid_map_right] at h
  exact fun a ha => V3.eq_of_sub_eq_zero (V3.eq_zero_of_normSq
    (sumMap_eq_zero_of_nonneg (fun _ => V3.normSq_nonneg _) h a ha))

theorem sim_unique_of_three (R R0 : M3 K) (t t0 : V3 K) (c c0 : K) (hR : IsRot R) (hR0 : IsRot R0)
    (hc : 0 < c) (hc0 : 0 < c0) (p0 p1 p2 : V3 K)
    (h0 : simApply R0 t0 c0 p0 = simApply R t c p0) (h1 : simApply R0 t0 c0 p1 = simApply R t c p1)
    (h2 : simApply R0 t0 c0 p2 = simApply R t c p2)
    (hnc : V3.cross (V3.sub p1 p0) (V3.sub p2 p0) ≠ V3.zero) :
    R = R0 ∧ t = t0 ∧ c = c0 := by
  -- differences kill the translation
  have du : V3.smul c (R.mulVec (V3.sub p1 p0)) = V3.smul c0 (R0.mulVec (V3.sub p1 p0)) := by
    rw [← simApply_sub R t c, ← simApply_sub R0 t0 c0, h0, h1]
  have dv : V3.smul c (R.mulVec (V3.sub p2 p0)) = V3.smul c0 (R0.mulVec (V3.sub p2 p0)) := by
    rw [← simApply_sub R t c, ← simApply_sub R0 t0 c0, h0, h2]
  generalize V3.sub p1 p0 = u at du hnc
  generalize V3.sub p2 p0 = v at dv hnc
  have hu : V3.normSq u ≠ 0 := fun h => hnc (by
    rw [V3.eq_zero_of_normSq h]; ext <;> simp [V3.cross, V3.zero])
  -- equal scales: compare norms
  obtain rfl : c = c0 := by
    have hn := congrArg V3.normSq du
    rw [normSq_smul_mulVec hR.1, normSq_smul_mulVec hR0.1] at hn
    exact (pow_left_inj₀ hc.le hc0.le two_ne_zero).mp (mul_right_cancel₀ hu hn)
  have cancel : ∀ a b : V3 K, V3.smul c a = V3.smul c b → a = b := fun a b h => by
    rw [← V3.smul_smul_cancel (inv_mul_cancel₀ hc.ne') a, h, V3.smul_smul_cancel (inv_mul_cancel₀ hc.ne')]
  -- equal rotations: they agree on `u`, `v`, `u × v`
  have ru := cancel _ _ du
  have rv := cancel _ _ dv
  obtain rfl : R = R0 := eq_of_mulVec_eq ru rv (by rw [hR.mulVec_cross, hR0.mulVec_cross, ru, rv])
    (fun h => hnc (V3.eq_zero_of_normSq h))
  refine ⟨rfl, ?_, rfl⟩
  have a := congrArg V3.x h0; have b := congrArg V3.y h0; have d := congrArg V3.z h0
  simp only [simApply, V3.add] at a b d
  ext <;> linarith

end nf

section nfrat

theorem noise_free (ws : Bool) (x : List (V3 Rat)) (R0 R : M3 Rat) (t0 t : V3 Rat) (c0 c : Rat)
    (hR0 : IsRot R0) (hc0 : 0 < c0) (hws : ws = false → c0 = 1)
    (h : umeCert 0 ws x (x.map (simApply R0 t0 c0)) R t c = true)
    (p0 p1 p2 : V3 Rat) (h0 : p0 ∈ x) (h1 : p1 ∈ x) (h2 : p2 ∈ x)
    (hnc : V3.cross (V3.sub p1 p0) (V3.sub p2 p0) ≠ V3.zero) :
    R = R0 ∧ t = t0 ∧ c = c0 := by
  have hc := cert_of_umeCert h
  have hlen : x.length = (x.map (simApply R0 t0 c0)).length := by simp
  have hne : x ≠ [] := List.ne_nil_of_mem h0
  have hle : resid x (x.map (simApply R0 t0 c0)) R t c ≤ 0 := by
    rw [← resid_map_self x R0 t0 c0]
    exact hc.optimal hlen hne R0 t0 c0 hR0 (by cases ws <;> simp [hc0.le, hws])
  have hz : resid x (x.map (simApply R0 t0 c0)) R t c = 0 := le_antisymm hle (resid_nonneg _ _ _ _ _)
  have hp := pointwise_of_resid_zero x _ R t c hz
  have hcpos := hc.scale_pos.1
  exact sim_unique_of_three R R0 t t0 c c0 hc.rot hR0 hcpos hc0 p0 p1 p2 (hp p0 h0) (hp p1 h1) (hp p2 h2) hnc

end nfrat

end Evo.Ume
