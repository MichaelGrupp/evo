/-
C03, quantified floating-point gap: an ε-relaxed certificate with explicit slacks implies
optimality up to an explicit bound (`optimal_approx_rigid`, `optimal_approx_sim`), over any
ordered field. `R` is an exact proper rotation here; evo's float `R₁` is tied to an exact rational
rotation (built from a quaternion hint, no square root) by the executable `Ume.approxReport`,
which adds the exactly computed residual gap `resid(R₁) − resid(R)` to the bound; what its parts return
is read here (`isRot_quatRot`, `asymMax_spec`, `psdSlack_spec`) and put together in
`C03.umeyama_optimal_approx_checked`.
-/
import EvoModel.Lemmas.Umeyama
import EvoModel.Lemmas.Lie
namespace Evo.Ume
open Evo

section approx
variable {K : Type} [Field K] [LinearOrder K] [IsStrictOrderedRing K]

theorem qform_bmat_symShift (A : M3 K) (ε : K) (v : V3 K) :
    qform (bmat (symShift A ε)) v = qform (bmat A) v + ε * V3.normSq v := by
  simp only [qform, bmat, symShift, M3.sub, M3.smul, M3.one, M3.trace, M3.mulVec, V3.dot, V3.normSq]
  ring

/-- `ε₂ … ε₅` are what `Ume.approxReport` measures as `e2 … e5` -/
structure CertApprox (withScale : Bool) (x y : List (V3 K)) (R : M3 K) (t : V3 K) (c : K)
    (ε₂ ε₃ ε₄ ε₅ : K) : Prop where
  rot : IsRot R
  s01 : -ε₂ ≤ (amat x y R).a01 - (amat x y R).a10 ∧ (amat x y R).a01 - (amat x y R).a10 ≤ ε₂
  s02 : -ε₂ ≤ (amat x y R).a02 - (amat x y R).a20 ∧ (amat x y R).a02 - (amat x y R).a20 ≤ ε₂
  s12 : -ε₂ ≤ (amat x y R).a12 - (amat x y R).a21 ∧ (amat x y R).a12 - (amat x y R).a21 ≤ ε₂
  e3 : 0 ≤ ε₃
  psd : ∀ v : V3 K, 0 ≤ qform (bmat (amat x y R)) v + ε₃ * V3.normSq v
  trans : V3.normSq (V3.sub t (tFormula x y R c)) ≤ ε₄
  scale : if withScale = true then
      (-ε₅ ≤ c * var x - (amat x y R).trace ∧ c * var x - (amat x y R).trace ≤ ε₅ ∧ 0 ≤ c ∧ 0 < var x)
    else c = 1

theorem CertApprox.trace_le {ws : Bool} {x y : List (V3 K)} {R : M3 K} {t : V3 K} {c ε₂ ε₃ ε₄ ε₅ : K}
    (h : CertApprox ws x y R t c ε₂ ε₃ ε₄ ε₅) (R' : M3 K) (hR' : IsRot R') :
    (amat x y R').trace ≤ (amat x y R).trace + (3 * ε₂ + 3 * ε₃) := by
  rw [amat_eq_mul x y h.rot.1]
  exact traceMax_approx _ _ (hR'.transpose.mul h.rot) ε₂ ε₃ h.s01 h.s02 h.s12 h.e3 h.psd

theorem le_add_of_sub_eq_mul {a b n β B : K} (hd : b - a = n * β) (hn : 0 ≤ n) (hβ : -B ≤ β) :
    a ≤ b + n * B := by
  have := mul_le_mul_of_nonneg_left hβ hn
  linarith

theorem optimal_approx_rigid {x y : List (V3 K)} {R : M3 K} {t : V3 K} {c ε₂ ε₃ ε₄ ε₅ : K}
    (h : CertApprox false x y R t c ε₂ ε₃ ε₄ ε₅) (hlen : x.length = y.length) (hne : x ≠ [])
    (R' : M3 K) (t' : V3 K) (hR' : IsRot R') :
    resid x y R t c ≤ resid x y R' t' 1 + cnt x * (ε₄ + 2 * (3 * ε₂ + 3 * ε₃)) := by
  have hn := cnt_pos (K := K) x hne
  obtain rfl : c = 1 := by simpa using h.scale
  refine le_add_of_sub_eq_mul (resid_sub_resid x y R R' t t' 1 1 hlen hn.ne' h.rot.1 hR'.1) hn.le ?_
  linarith [h.trace_le R' hR', V3.normSq_nonneg (V3.sub t' (tFormula x y R' 1)), h.trans]

theorem neg_sq_div_le (u w : K) {v : K} (hv : 0 < v) : -(w ^ 2 / v) ≤ v * u ^ 2 + 2 * (u * w) := by
  rw [neg_le, le_div_iff₀ hv]
  linarith [sq_nonneg (v * u + w)]

theorem optimal_approx_sim {x y : List (V3 K)} {R : M3 K} {t : V3 K} {c ε₂ ε₃ ε₄ ε₅ : K}
    (h : CertApprox true x y R t c ε₂ ε₃ ε₄ ε₅) (hlen : x.length = y.length) (hne : x ≠ [])
    (R' : M3 K) (t' : V3 K) (c' : K) (hR' : IsRot R') (hc' : 0 ≤ c') :
    resid x y R t c ≤ resid x y R' t' c'
      + cnt x * (ε₄ + 2 * c * (3 * ε₂ + 3 * ε₃) + (ε₅ + (3 * ε₂ + 3 * ε₃)) ^ 2 / var x) := by
  have hn := cnt_pos (K := K) x hne
  refine le_add_of_sub_eq_mul (resid_sub_resid x y R R' t t' c c' hlen hn.ne' h.rot.1 hR'.1) hn.le ?_
  have hT := h.trace_le R' hR'
  obtain ⟨e1, e2, -, hv⟩ : _ ∧ _ ∧ _ ∧ _ := by simpa using h.scale
  have hN := V3.normSq_nonneg (V3.sub t' (tFormula x y R' c'))
  have h4 := h.trans
  have hτ : 0 ≤ 3 * ε₂ + 3 * ε₃ := by linarith [h.s01.1, h.s01.2, h.e3]
  generalize 3 * ε₂ + 3 * ε₃ = τ at hT hτ ⊢
  -- with `u = c' − c`, `w = cσ_x² − tr A − τ`: the bracket is `≥ σ_x²u² + 2uw − 2cτ − ε₄`
  have hq := neg_sq_div_le (c' - c) (c * var x - (amat x y R).trace - τ) hv
  have hsq : (c * var x - (amat x y R).trace - τ) ^ 2 / var x ≤ (ε₅ + τ) ^ 2 / var x :=
    div_le_div_of_nonneg_right (sq_le_sq' (by linarith) (by linarith)) hv.le
  have hcT := mul_le_mul_of_nonneg_left (sub_nonneg.mpr hT) hc'
  linarith

end approx

section ratapprox

theorem isRot_quatRot (w x y z : Rat) (hn : w * w + x * x + y * y + z * z ≠ 0) : IsRot (quatRot w x y z) := by
  have hk : (w * w + x * x + y * y + z * z) * (w * w + x * x + y * y + z * z)⁻¹ = 1 := mul_inv_cancel₀ hn
  -- Rodrigues' formula for the vector part, with coefficients `2w/|q|²` and `2/|q|²` (`hk` on the diagonal)
  have e : quatRot w x y z = rodrigues ⟨x, y, z⟩ (2 * w * (w * w + x * x + y * y + z * z)⁻¹)
      (2 * (w * w + x * x + y * y + z * z)⁻¹) := by
    simp only [quatRot, rodrigues_eq, div_eq_mul_inv]
    generalize (w * w + x * x + y * y + z * z)⁻¹ = k at hk ⊢
    ext <;> first | ring1 | linear_combination hk
  rw [e]
  refine rodrigues_isRot _ _ _ ?_
  simp only [V3.normSq, V3.dot]
  generalize (w * w + x * x + y * y + z * z)⁻¹ = k at hk ⊢
  linear_combination 4 * k * hk

theorem asymMax_spec (A : M3 Rat) :
    (-(asymMax A) ≤ A.a01 - A.a10 ∧ A.a01 - A.a10 ≤ asymMax A) ∧
    (-(asymMax A) ≤ A.a02 - A.a20 ∧ A.a02 - A.a20 ≤ asymMax A) ∧
    (-(asymMax A) ≤ A.a12 - A.a21 ∧ A.a12 - A.a21 ≤ asymMax A) := by
  refine ⟨absR_le ?_, absR_le ?_, absR_le ?_⟩ <;> unfold asymMax
  · exact le_max_left _ _
  · exact le_trans (le_max_left _ _) (le_max_right _ _)
  · exact le_trans (le_max_right _ _) (le_max_right _ _)

theorem psdSlack_spec {A : M3 Rat} {m e : Rat} (h : psdSlack A m = some e) :
    0 ≤ e ∧ ∀ v : V3 Rat, 0 ≤ qform (bmat A) v + e * V3.normSq v := by
  unfold psdSlack at h
  have := List.find?_some h
  simp only [Bool.and_eq_true, decide_eq_true_eq, minorsNonneg] at this
  obtain ⟨he, ⟨⟨⟨⟨⟨⟨p0, p1⟩, p2⟩, p3⟩, p4⟩, p5⟩, p6⟩⟩ := this
  refine ⟨he, fun v => ?_⟩
  have := psd_of_minors _ (bmat_symm (A := symShift A e) rfl) p0 p1 p2 p3 p4 p5 p6 v
  rwa [qform_bmat_symShift] at this

end ratapprox
end Evo.Ume
