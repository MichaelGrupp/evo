/-
C03, uniqueness of the minimiser: when `B = tr(A)·I − A` is positive definite, equality in trace
maximality forces `Q = I` (`traceMax_eq_one` in `Lemmas/TraceMax.lean`); hence a transformation of the class
whose residual is not larger than that of a certified output *is* the certified output (`unique_of_cert`).
Equivariance: the residual of the composition `B ∘ g ∘ A⁻¹` on moved / scaled data (`resid_equivariant`), and,
with uniqueness, of the result (`C03.umeyama_equivariant`, from `pull_apply`, `conjScale_class` and
`unique_of_cert`).
-/
import EvoModel.Lemmas.Umeyama
namespace Evo.Ume
open Evo

section uniq
variable {K : Type} [Field K] [LinearOrder K] [IsStrictOrderedRing K]

theorem unique_of_cert {ws : Bool} {x y : List (V3 K)} {R : M3 K} {t : V3 K} {c : K}
    (h : Cert ws x y R t c) (hPD : IsPD (bmat (amat x y R))) (hlen : x.length = y.length) (hne : x ≠ [])
    (R' : M3 K) (t' : V3 K) (c' : K) (hR' : IsRot R') (hc' : if ws = true then 0 ≤ c' else c' = 1)
    (hle : resid x y R' t' c' ≤ resid x y R t c) : R' = R ∧ t' = t ∧ c' = c := by
  have hn := cnt_pos (K := K) x hne
  obtain ⟨hd, a1, a2⟩ := h.resid_sub hlen hne R' t' c' hR' hc'
  -- the three non-negative defects vanish
  have a3 := V3.normSq_nonneg (V3.sub t' (tFormula x y R' c'))
  have hz := nonpos_of_mul_nonpos_right (hd ▸ sub_nonpos.mpr hle) hn
  have z1 : var x * (c' - c) ^ 2 = 0 := by linarith
  have z2 : 2 * c' * ((amat x y R).trace - (amat x y R').trace) = 0 := by linarith
  have hd : V3.normSq (V3.sub t' (tFormula x y R' c')) = 0 := by linarith
  have hc : c' = c := by
    cases ws with
    | true =>
      have hs := h.scale
      simp only [if_true] at hs
      have hv : var x ≠ 0 := fun hv => by rw [hv, mul_zero] at hs; linarith [hs.1, hPD.trace_pos]
      have := pow_eq_zero_iff two_ne_zero |>.mp ((mul_eq_zero.mp z1).resolve_left hv)
      linarith
    | false =>
      simp only [Bool.false_eq_true, if_false] at hc'
      rw [hc', h.scale_pos.2 rfl]
  have htr : (amat x y R').trace = (amat x y R).trace := by
    have := (mul_eq_zero.mp z2).resolve_left (by rw [hc]; exact (mul_pos two_pos h.scale_pos.1).ne')
    linarith
  rw [amat_eq_mul x y h.rot.1] at htr
  have hQ := traceMax_eq_one _ _ (hR'.transpose.mul h.rot) h.sym hPD htr
  have hR : R' = R := by
    have : R'.mul (R'.transpose.mul R) = R'.mul M3.one := by rw [hQ]
    rw [← M3.mul_assoc', hR'.1.mul_transpose, M3.one_mul', M3.mul_one'] at this
    exact this.symm
  refine ⟨hR, ?_, hc⟩
  have := V3.eq_of_sub_eq_zero (V3.eq_zero_of_normSq hd)
  rw [this, hR, hc, ← h.trans]

end uniq

section equiv
variable {K : Type} [Field K]

theorem resid_perm (x y x' y' : List (V3 K)) (h : (x.zip y).Perm (x'.zip y')) (R : M3 K) (t : V3 K) (c : K) :
    resid x y R t c = resid x' y' R t c := sumMap_perm _ h

theorem resid_map_of_comm (x y : List (V3 K)) (f : V3 K → V3 K) {RB : M3 K} (tB : V3 K) (sB : K) (hB : IsOrtho RB)
    {R' R : M3 K} {t' t : V3 K} {c' c : K}
    (h : ∀ p, simApply R' t' c' (f p) = simApply RB tB sB (simApply R t c p)) :
    resid (x.map f) (y.map (simApply RB tB sB)) R' t' c' = sB ^ 2 * resid x y R t c := by
  unfold resid
  rw [List.zip_map, sumMap_map, ← sumMap_mul_left]
  refine sumMap_congr _ fun p => ?_
  rw [Prod.map_fst, Prod.map_snd, h, simApply_sub, normSq_smul_mulVec hB]

/-- the composed transformation `B ∘ g ∘ A⁻¹` of a similarity `g = (R, t, c)` -/
def conjRot (RA RB R : M3 K) : M3 K := RB.mul (R.mul RA.transpose)
def conjScale (sA sB c : K) : K := sB * c / sA
def conjTrans (RA RB R : M3 K) (tA tB t : V3 K) (sA sB c : K) : V3 K :=
  V3.sub (V3.add (V3.smul sB (RB.mulVec t)) tB)
    (V3.smul (conjScale sA sB c) ((conjRot RA RB R).mulVec tA))

theorem conj_apply (RA RB R : M3 K) (tA tB t : V3 K) (sA sB c : K) (hA : IsOrtho RA) (hsA : sA ≠ 0) (p : V3 K) :
    simApply (conjRot RA RB R) (conjTrans RA RB R tA tB t sA sB c) (conjScale sA sB c) (simApply RA tA sA p)
      = simApply RB tB sB (simApply R t c p) := by
  have e1 : (conjRot RA RB R).mul RA = RB.mul R := by
    unfold conjRot; rw [M3.mul_assoc', M3.mul_assoc', hA, M3.mul_one']
  have e2 : conjScale sA sB c * sA = sB * c := by unfold conjScale; field_simp
  rw [simApply_comp, simApply_comp, e1, e2, conjTrans, V3.add_comm', V3.sub_add_cancel']

theorem resid_equivariant (x y : List (V3 K)) (RA RB R : M3 K) (tA tB t : V3 K) (sA sB c : K)
    (hA : IsOrtho RA) (hB : IsOrtho RB) (hsA : sA ≠ 0) :
    resid (x.map (simApply RA tA sA)) (y.map (simApply RB tB sB))
        (conjRot RA RB R) (conjTrans RA RB R tA tB t sA sB c) (conjScale sA sB c)
      = sB ^ 2 * resid x y R t c :=
  resid_map_of_comm x y _ tB sB hB (conj_apply RA RB R tA tB t sA sB c hA hsA)

/-- pull-back of a transformation of the moved data to the original data: `B⁻¹ ∘ g₂ ∘ A` -/
theorem pull_apply (RA RB R₂ : M3 K) (tA tB t₂ : V3 K) (sA sB c₂ : K) (hB : IsOrtho RB) (hsB : sB ≠ 0) (p : V3 K) :
    simApply R₂ t₂ c₂ (simApply RA tA sA p)
      = simApply RB tB sB (simApply (RB.transpose.mul (R₂.mul RA))
          (V3.smul (1 / sB) (RB.transpose.mulVec (V3.sub (V3.add (V3.smul c₂ (R₂.mulVec tA)) t₂) tB)))
          (conjScale sB sA c₂) p) := by
  have e1 : RB.mul (RB.transpose.mul (R₂.mul RA)) = R₂.mul RA := by
    rw [← M3.mul_assoc', hB.mul_transpose, M3.one_mul']
  have e2 : sB * conjScale sB sA c₂ = c₂ * sA := by unfold conjScale; field_simp
  have e3 : ∀ w : V3 K, V3.smul sB (RB.mulVec (V3.smul (1 / sB) (RB.transpose.mulVec w))) = w := fun w => by
    rw [M3.mulVec_smul, V3.smul_smul_cancel (mul_one_div_cancel hsB), M3.mulVec_mulVec, hB.mul_transpose,
      M3.one_mulVec]
  rw [simApply_comp, simApply_comp, e1, e2, e3, V3.sub_add_cancel']

end equiv

section uniqrat

theorem conjScale_class {ws : Bool} {sA sB c : Rat} (hsA : 0 < sA) (hsB : 0 < sB) (hws : ws = false → sA = sB)
    (hc : 0 < c ∧ (ws = false → c = 1)) : if ws = true then 0 ≤ conjScale sA sB c else conjScale sA sB c = 1 := by
  unfold conjScale
  cases ws with
  | true => exact div_nonneg (mul_nonneg hsB.le hc.1.le) hsA.le
  | false => simp only [Bool.false_eq_true, if_false]; rw [hc.2 rfl, hws rfl]; field_simp

theorem isPD_of_certPD {ws : Bool} {x y : List (V3 Rat)} {R : M3 Rat} {t : V3 Rat} {c : Rat}
    (h : Cert ws x y R t c) (hpd : certPD x y R = true) : IsPD (bmat (amat x y R)) := by
  unfold certPD at hpd
  simp only [Bool.and_eq_true, decide_eq_true_eq] at hpd
  obtain ⟨⟨p0, p1⟩, p2⟩ := hpd
  exact pd_of_minors _ (bmat_symm h.sym) p0 p1 p2

end uniqrat
end Evo.Ume
