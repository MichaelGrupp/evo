/-
C01 — APE values equal the definition, pose by pose.

Model: `Model/Ape.lean` (`apeCore`, `ape`, `apePlan`), tied to `evo/core/metrics.py`,
`evo/main_ape.py`, `evo/common_ape_rpe.py` by `harness/props/C01.py` on every run.
The error values are the exact rational cores (`Core`: radicand of the final `sqrt`, or the
`(cos, sin²)` pair of the final `atan2`); `*_real` theorems interpret them over ℝ.
Rigidity hypotheses: `IsRigid p` = `RᵀR = 1` for the rotation block, `IsRot` adds `det = 1`.
-/
import EvoModel.Lemmas.MetricsReal
import EvoModel.Lemmas.Pipeline
namespace Evo.C01
open Evo

/-- as many values as poses -/
theorem ape_length {rel : PoseRelation} {ref est : List (Pose Rat)} {vs : List (Core Rat)}
    (h : ape rel ref est = .ok vs) : vs.length = ref.length ∧ vs.length = est.length := by
  obtain ⟨hl, _, _, rfl⟩ := ape_ok_iff.mp h
  constructor <;> simp [List.length_zipWith, hl]

/-- value `k` is the definition applied to reference pose `k` and estimate pose `k` -/
theorem ape_get {rel : PoseRelation} {ref est : List (Pose Rat)} {vs : List (Core Rat)}
    (h : ape rel ref est = .ok vs) (k : Nat) (hr : k < ref.length) (he : k < est.length) :
    vs[k]? = some (apeCore rel ref[k] est[k]) := by
  obtain ⟨_, _, _, rfl⟩ := ape_ok_iff.mp h
  rw [List.getElem?_zipWith, List.getElem?_eq_getElem hr, List.getElem?_eq_getElem he]

/-- the definitions themselves, relation by relation (`E = est⁻¹·ref` with the transpose-based inverse) -/
theorem apeCore_definition (ref est : Pose Rat) :
    apeCore .trans ref est = .sqrt (V3.normSq (V3.sub est.t ref.t)) ∧
    apeCore .pointDist ref est = .sqrt (V3.normSq (V3.sub est.t ref.t)) ∧
    apeCore .rot ref est = .sqrt (M3.frobSq (M3.sub (Pose.rel est ref).rot M3.one)) ∧
    apeCore .full ref est = .sqrt (M3.frobSq (M3.sub (Pose.rel est ref).rot M3.one) + V3.normSq (Pose.rel est ref).t) ∧
    apeCore .angleRad ref est = .angle (Pose.rel est ref).rot.angleCore.1 (Pose.rel est ref).rot.angleCore.2 false ∧
    apeCore .angleDeg ref est = .angle (Pose.rel est ref).rot.angleCore.1 (Pose.rel est ref).rot.angleCore.2 true :=
  ⟨rfl, rfl, rfl, rfl, rfl, rfl⟩

/-- the degree flag of an angle core agrees with the unit label of the metric (`APE.unit`) -/
theorem ape_angle_unit_consistent (rel : PoseRelation) (ref est : Pose Rat) (c s : Rat) (d : Bool)
    (h : apeCore rel ref est = .angle c s d) :
    (d = true ↔ rel.apeUnit = "deg") ∧ (d = false ↔ rel.apeUnit = "rad") := by
  cases rel <;> simp only [apeCore, reduceE] at h <;> cases h <;> simp [PoseRelation.apeUnit]

/-- sequences of different length are refused, not truncated -/
theorem ape_refuses_unequal (rel : PoseRelation) (ref est : List (Pose Rat)) (h : ref.length ≠ est.length) :
    ape rel ref est = .error .unequal := by
  unfold ape; rw [if_pos h]

/-- nothing else is refused for proper rigid poses: equal lengths and a relation APE supports give all values -/
theorem ape_total_of_rot (rel : PoseRelation) (ref est : List (Pose Rat)) (hl : ref.length = est.length)
    (hrel : rel ≠ .ratio) (hr : ∀ p ∈ ref, IsRot p.rot) (he : ∀ p ∈ est, IsRot p.rot) :
    ape rel ref est = .ok (List.zipWith (apeCore rel) ref est) := by
  rw [ape_ok_iff]
  refine ⟨hl, hrel, ?_, rfl⟩
  rintro ⟨_, h⟩
  rw [apeRots_all_of_isRot hr he] at h
  cases h

/-- APE does not support the error-ratio relation (`MetricsException`) -/
theorem ape_refuses_ratio (ref est : List (Pose Rat)) (hl : ref.length = est.length) :
    ape .ratio ref est = .error .unsupported := by
  unfold ape; rw [if_neg (not_not.mpr hl), if_pos rfl]

/-- coinciding poses have error zero -/
theorem ape_zero_of_eq (rel : PoseRelation) (p : Pose Rat) (hp : IsRigid p) : (apeCore rel p p).IsZero :=
  apeCore_self rel hp

/-- … hence every value of `ape rel l l` is zero -/
theorem ape_zero_of_eq_list (rel : PoseRelation) (l : List (Pose Rat)) (vs : List (Core Rat))
    (hl : ∀ p ∈ l, IsRigid p) (h : ape rel l l = .ok vs) : ∀ v ∈ vs, v.IsZero := by
  obtain ⟨_, _, _, rfl⟩ := ape_ok_iff.mp h
  rw [List.zipWith_self, List.forall_mem_map]
  exact fun p hp => apeCore_self rel (hl p hp)

/-- the same rigid motion applied to reference and estimate changes no value -/
theorem ape_invariant_common_motion (rel : PoseRelation) (T ref est : Pose Rat) (hT : IsRigid T) :
    apeCore rel (T.mul ref) (T.mul est) = apeCore rel ref est :=
  apeCore_common_motion rel hT ref est

/-- … for whole trajectories, including the refusals -/
theorem ape_invariant_common_motion_list (rel : PoseRelation) (T : Pose Rat) (hT : IsRigid T)
    (ref est : List (Pose Rat)) :
    ape rel (ref.map T.mul) (est.map T.mul) = ape rel ref est := by
  have hrots : apeRots (ref.map T.mul) (est.map T.mul) = apeRots ref est := by
    simp only [apeRots, List.zipWith_map, apeBase, Pose.rel_left_invariant T _ _ hT]
  have hvals : List.zipWith (apeCore rel) (ref.map T.mul) (est.map T.mul) = List.zipWith (apeCore rel) ref est := by
    simp only [List.zipWith_map, apeCore_common_motion rel hT]
  unfold ape
  rw [hrots, hvals, List.length_map, List.length_map]

/-- swapping reference and estimate changes no value -/
theorem ape_swap (rel : PoseRelation) (ref est : Pose Rat) (hr : IsRigid ref) (he : IsRigid est) :
    apeCore rel est ref = apeCore rel ref est :=
  apeCore_swap rel hr he

/-- … for whole trajectories of proper rigid poses -/
theorem ape_swap_list (rel : PoseRelation) (ref est : List (Pose Rat))
    (hr : ∀ p ∈ ref, IsRot p.rot) (he : ∀ p ∈ est, IsRot p.rot) :
    ape rel est ref = ape rel ref est := by
  by_cases hl : ref.length = est.length
  · by_cases hrel : rel = .ratio
    · subst hrel; rw [ape_refuses_ratio _ _ hl, ape_refuses_ratio _ _ hl.symm]
    · rw [ape_total_of_rot rel ref est hl hrel hr he, ape_total_of_rot rel est ref hl.symm hrel he hr]
      congr 1
      apply List.ext_getElem
      · simp only [List.length_zipWith, Nat.min_comm]
      · intro k h1 h2
        rw [List.getElem_zipWith, List.getElem_zipWith]
        exact apeCore_swap rel (hr _ (List.getElem_mem _)).1 (he _ (List.getElem_mem _)).1
  · rw [ape_refuses_unequal _ _ _ hl, ape_refuses_unequal _ _ _ (fun h => hl h.symm)]

/-- every reported value is a non-negative real; angles lie in `[0, π]` (rad) resp. `[0, 180]` (deg) -/
theorem ape_value_real_range (c : Core ℝ) : 0 ≤ c.value ∧
    (∀ a s, c = .angle a s false → c.value ≤ Real.pi) ∧ (∀ a s, c = .angle a s true → c.value ≤ 180) :=
  ⟨Core.value_nonneg c, fun a s h => h ▸ Core.value_angle_rad_le a s, fun a s h => h ▸ Core.value_angle_deg_le a s⟩

/-- a zero core is reported as `0` -/
theorem ape_value_real_zero (c : Core ℝ) (h : c.IsZero) : c.value = 0 := Core.value_of_isZero h

/-- the angle reported for a proper rotation `R` is its geodesic angle: `θ ∈ [0, π]` with
`cos θ = (tr R − 1)/2` and `sin θ = ‖vee((R − Rᵀ)/2)‖` -/
theorem angle_is_geodesic (R : M3 ℝ) (h : IsRot R) :
    let θ := (Core.angle R.angleCore.1 R.angleCore.2 false).value
    0 ≤ θ ∧ θ ≤ Real.pi ∧ Real.cos θ = (R.trace - 1) / 2 ∧ Real.sin θ = Real.sqrt (R.axisVec.normSq) := by
  intro θ
  obtain ⟨e, hc, hs⟩ := atan2_sqrt_of_circle (M3.angleCore_snd_nonneg R) h.angleCore_eq
  have hθ : θ = Real.arccos R.angleCore.1 := (Core.value_angle_rad _ _).trans e
  rw [hθ, hc, hs]
  exact ⟨Real.arccos_nonneg _, Real.arccos_le_pi _, by rw [M3.angleCore_fst]; norm_num, rfl⟩

/-- the zero / common-motion / swap laws hold for the reported real numbers, over ℝ-valued poses -/
theorem ape_value_real_laws (rel : PoseRelation) (T ref est : Pose ℝ) (hT : IsRigid T) (hr : IsRigid ref)
    (he : IsRigid est) :
    (apeCore rel ref ref).value = 0 ∧
    (apeCore rel (T.mul ref) (T.mul est)).value = (apeCore rel ref est).value ∧
    (apeCore rel est ref).value = (apeCore rel ref est).value :=
  ⟨Core.value_of_isZero (apeCore_self rel hr), by rw [apeCore_common_motion rel hT], by rw [apeCore_swap rel hr he]⟩

/-- casting the rational core to ℝ is the core of the cast poses -/
theorem ape_core_cast (rel : PoseRelation) (ref est : Pose Rat) :
    (apeCore rel ref est).map (fun q : Rat => (q : ℝ)) = apeCore rel (ref.map (fun q : Rat => (q : ℝ))) (est.map (fun q : Rat => (q : ℝ))) :=
  apeCore_map (Rat.castHom ℝ) rel ref est

/-- the steps come in the documented order (strictly increasing rank, so each at most once):
downsample < motion filter < crop reference < associate < align < origin < project < metric < unit -/
theorem apePlan_order (o : CommonOpts) (steps : List Step) (h : apePlan o = .ok steps) :
    (steps.map Step.rank).Pairwise (· < ·) :=
  (apePlan_isPlan h).order

/-- which Umeyama variant runs: `-a` SE(3), `-a -s` Sim(3), `-s` alone scale only, neither: none;
always with `n = n_to_align` -/
theorem apePlan_align (o : CommonOpts) (steps : List Step) (h : apePlan o = .ok steps) (k : AlignKind) (n : Int) :
    Step.align k n ∈ steps ↔ alignKind o.align o.correctScale = some k ∧ n = o.nToAlign :=
  (apePlan_isPlan h).align k n

/-- scale-only correction ⟺ `correct_scale ∧ ¬ align` -/
theorem apePlan_onlyScale (o : CommonOpts) (steps : List Step) (h : apePlan o = .ok steps) (n : Int) :
    Step.align .scaleOnly n ∈ steps ↔ (o.correctScale = true ∧ o.align = false) ∧ n = o.nToAlign :=
  (apePlan_isPlan h).onlyScale n

/-- the time range is applied to the reference only (`cropRef`), exactly when `t_start` or `t_end` is given
(`0` included, finding F9) and the trajectories have timestamps, with the given bounds … -/
theorem apePlan_crop (o : CommonOpts) (steps : List Step) (h : apePlan o = .ok steps) (s e : Option Rat) :
    Step.cropRef s e ∈ steps ↔
      o.hasStamps = true ∧ (o.tStart.isSome = true ∨ o.tEnd.isSome = true) ∧ s = o.tStart ∧ e = o.tEnd :=
  (apePlan_isPlan h).crop s e

/-- … and before the association: nothing after `associate` is a crop, and the association uses
`t_max_diff` and `t_offset` as given (sign included) -/
theorem apePlan_crop_on_ref_before_associate (o : CommonOpts) (steps l₁ l₂ : List Step) (m f : Rat)
    (h : apePlan o = .ok steps) (e : steps = l₁ ++ Step.associate m f :: l₂) :
    (∀ s t, Step.cropRef s t ∉ l₂) ∧ (∀ n, Step.downsample n ∉ l₂) ∧ (∀ d a, Step.motionFilter d a ∉ l₂) ∧
      m = o.tMaxDiff ∧ f = o.tOffset :=
  (apePlan_isPlan h).crop_before_associate e

/-- the projection comes after every alignment step -/
theorem apePlan_project_after_align (o : CommonOpts) (steps l₁ l₂ : List Step) (p : Plane)
    (h : apePlan o = .ok steps) (e : steps = l₁ ++ Step.project p :: l₂) :
    (∀ k n, Step.align k n ∉ l₂) ∧ Step.alignOrigin ∉ l₂ ∧ (∀ m f, Step.associate m f ∉ l₂) :=
  (apePlan_isPlan h).project_after_align e

/-- the metric step is there, with the requested relation and no other (once, by `apePlan_order`);
`--t_start 0` is honoured -/
theorem apePlan_metric (o : CommonOpts) (steps : List Step) (h : apePlan o = .ok steps) :
    Step.metricApe o.rel ∈ steps ∧ (∀ r, Step.metricApe r ∈ steps → r = o.rel) ∧
      (o.hasStamps = true → o.tStart = some 0 → Step.cropRef (some 0) o.tEnd ∈ steps) := by
  have hm : Step.metricApe o.rel ∈ steps := by
    obtain ⟨pre, _, rfl⟩ := apePlan_ok_iff.mp h; simp
  refine ⟨hm, fun r hr => ?_, fun hst h0 => ?_⟩
  · injection (apePlan_isPlan h).eq_of_rank_eq hr hm rfl
  · rw [apePlan_crop o steps h]
    exact ⟨hst, Or.inl (by rw [h0]; rfl), h0.symm, rfl⟩

/-- the plan is refused exactly for a motion filter on trajectories without timestamps -/
theorem apePlan_refusal (o : CommonOpts) :
    (∃ e, apePlan o = .error e) ↔ (o.motionFilter.isSome = true ∧ o.hasStamps = false) := by
  by_cases hc : o.motionFilter.isSome = true ∧ o.hasStamps = false
  · refine ⟨fun _ => hc, fun _ => ⟨.filterNeedsStamps, ?_⟩⟩
    unfold apePlan prePlan
    rw [hc.1, hc.2]; rfl
  · simp only [apePlan, prePlan_ok_iff.mpr ⟨hc, rfl⟩, reduceCtorEq, exists_false, hc]

/-! ### evo_ape end to end inside the model (`Model/Pipeline.lean`)

`apeRun` executes the plan steps with the models of C11 (down-sampling, motion filter, time range),
C05 (association), C04/C03 (alignment), C14 (projection) on rational trajectories.  Parameters
(`Params`, from evo's own run, certified by the owning property): the Umeyama triple, the projected
directions, the accumulated distances / rotation angles the motion filter compares.  Computed: which
poses remain, how they are paired, the maps applied to them, every error core. -/

open Pipeline in
/-- **the stored error values are `apeCore` of exactly the remaining pose pairs.**  If `apeRun` returns
`res`: the selection phase (down-sampling, motion filter, time range on the reference, association)
yields two equally long lists `sel.1`, `sel.2` of *input* poses (each with its stamp and its index in
its input trajectory: `refIds`, `estIds`, `stamps` of the result); the processed reference is their
projection, processed estimate pose `k` is the projection of `T·alignPose(est_k)` (pose by pose:
`alignPose` from the Umeyama parameters, `T` the origin transformation); and the values are
`apeCore rel` of pair `k`, for every `k`, in order — one value per associated pair. -/
theorem apeRun_values_are_apeCore_of_remaining_pairs {o : CommonOpts} {P : Params} {ref est : Traj}
    {res : ApeResult} (h : apeRun o P ref est = .ok res) :
    ∃ (sel : List TPose × List TPose) (g : List (Pose Rat) × List (Pose Rat)),
      selectPairs o P ref est = .ok sel ∧
      (∀ x ∈ sel.1, ref.stamps[x.2.2]? = some x.1 ∧ ref.poses[x.2.2]? = some x.2.1) ∧
      (∀ x ∈ sel.2, est.stamps[x.2.2]? = some x.1 ∧ est.poses[x.2.2]? = some x.2.1) ∧
      res.refIds = idsOf sel.1 ∧ res.estIds = idsOf sel.2 ∧ res.stamps = stampsOf sel.2 ∧
      g.1 = projAll o.plane P.dirsRef (posesOf sel.1) ∧
      g.2 = projAll o.plane P.dirsEst (((posesOf sel.2).map (alignPose o P)).map
              (Pose.mul (originT o (posesOf sel.1) ((posesOf sel.2).map (alignPose o P))))) ∧
      res.values = List.zipWith (apeCore o.rel) g.1 g.2 ∧
      res.values.length = sel.1.length ∧ sel.1.length = sel.2.length := by
  simp only [apeRun, bind_ok_iff] at h
  obtain ⟨sel, hsel, g, hg, vals, hv, u, _, h⟩ := h
  obtain rfl := Except.ok.inj h
  obtain ⟨m1, m2, g1, g2, l1, l2⟩ := processed_ok hsel hg
  obtain ⟨hl, _, _, hz⟩ := ape_ok_iff.mp (liftMetric_ok.mp hv)
  refine ⟨sel, g, hsel, m1, m2, rfl, rfl, rfl, g1, g2, hz, ?_, by rw [← l1, ← l2, hl]⟩
  rw [hz, List.length_zipWith, ← hl, Nat.min_self, l1]

open Pipeline in
/-- with timestamps, the remaining pairs are C05's association of input poses of the reference (`r3`) with
input poses of the estimate (`e2`): index lists into those, every pair within `t_max_diff` after the offset -/
theorem apeRun_remaining_pairs_are_the_association {o : CommonOpts} {P : Params} {ref est : Traj}
    {sel : List TPose × List TPose} (h : selectPairs o P ref est = .ok sel) (hs : o.hasStamps = true) :
    ∃ r3 e2 ids1 ids2, (∀ x ∈ r3, x ∈ tagTraj ref) ∧ (∀ x ∈ e2, x ∈ tagTraj est) ∧
      Sync.associateIds (r3.map Prod.fst) (e2.map Prod.fst) o.tMaxDiff o.tOffset = .ok (ids1, ids2) ∧
      sel.1 = reduceIds r3 ids1 ∧ sel.2 = reduceIds e2 ids2 ∧ ids1.length = ids2.length ∧
      ∀ p ∈ List.zip ids1 ids2, ∃ (hi : p.1 < (r3.map Prod.fst).length) (hj : p.2 < (e2.map Prod.fst).length),
        absR ((r3.map Prod.fst)[p.1] - ((e2.map Prod.fst)[p.2] + o.tOffset)) ≤ o.tMaxDiff := by
  obtain ⟨r2, e2, r3, m1, m2, hc, ha⟩ := selectPairs_sync h hs
  obtain ⟨⟨ids1, ids2, hi, h1, h2⟩, _, _⟩ :=
    C05.associate_poses_are_input_poses r3 e2 o.tMaxDiff o.tOffset sel.1 sel.2 ha
  exact ⟨r3, e2, ids1, ids2, fun _ hx => m1 (stageCrop_subset hc hx), fun _ hx => m2 hx, hi, h1, h2,
    C05.associate_equal_length _ _ _ _ _ _ hi, C05.associate_offset_both_orderings _ _ _ _ _ _ hi⟩

open Pipeline in
/-- **which refusals propagate**: `apeRun` fails exactly with the error of the first failing phase
(selection → geometry → metric → unit change); nothing is swallowed, nothing is added -/
theorem apeRun_refusals (o : CommonOpts) (P : Params) (ref est : Traj) (e : RunErr) :
    apeRun o P ref est = .error e ↔
      selectPairs o P ref est = .error e ∨
      ∃ sel, selectPairs o P ref est = .ok sel ∧
        (geometry o P (posesOf sel.1) (posesOf sel.2) = .error e ∨
         ∃ g, geometry o P (posesOf sel.1) (posesOf sel.2) = .ok g ∧
           (liftMetric (ape o.rel g.1 g.2) = .error e ∨
            ∃ v, liftMetric (ape o.rel g.1 g.2) = .ok v ∧ unitStep o.rel o.changeUnit = .error e)) := by
  simp only [apeRun, bind_error_iff, reduceCtorEq, and_false, exists_false, or_false]

open Pipeline in
/-- two refusals by cause: unequal numbers of remaining poses → `MetricsException`; a relative rotation
outside the SO(3) tolerance under an angle relation → `LieAlgebraException` -/
theorem apeRun_refusal_causes (o : CommonOpts) (P : Params) (ref est : Traj)
    (sel : List TPose × List TPose) (g : List (Pose Rat) × List (Pose Rat))
    (hs : selectPairs o P ref est = .ok sel) (hg : geometry o P (posesOf sel.1) (posesOf sel.2) = .ok g) :
    (sel.1.length ≠ sel.2.length → apeRun o P ref est = .error .metrics) ∧
    (sel.1.length = sel.2.length → o.rel ≠ .ratio → o.rel.isAngle = true →
      (apeRots g.1 g.2).all isSo3Approx = false → apeRun o P ref est = .error .lie) := by
  obtain ⟨_, _, _, _, e1, e2⟩ := processed_ok hs hg
  constructor
  · intro hne
    have : ape o.rel g.1 g.2 = .error .unequal := ape_refuses_unequal _ _ _ (by rw [e1, e2]; exact hne)
    unfold apeRun
    simp [hs, hg, this, Except.bind, liftMetric]
  · intro heq hr ha hbad
    have : ape o.rel g.1 g.2 = .error .notSO3 := by
      unfold ape
      rw [if_neg (by rw [e1, e2]; exact not_not.mpr heq), if_neg hr, if_pos ⟨ha, hbad⟩]
    unfold apeRun
    simp [hs, hg, this, Except.bind, liftMetric]

/-! ### non-vacuity: concrete instances of the hypotheses -/

/-- rotation by 90° about z -/
def rz : M3 Rat := ⟨0, -1, 0, 1, 0, 0, 0, 0, 1⟩
def pA : Pose Rat := ⟨rz, ⟨1, 2, 3⟩⟩
def pB : Pose Rat := ⟨M3.one, ⟨4, 6, 3⟩⟩

example : IsRot rz := ⟨by unfold IsOrtho; decide +kernel, by decide +kernel⟩
example : IsRigid pA ∧ IsRigid pB := by constructor <;> (unfold IsRigid IsOrtho; decide +kernel)
example : ape .trans [pA, pB] [pB, pB] = .ok [.sqrt 25, .sqrt 0] := by decide +kernel
example : ape .rot [pA] [pB] = .ok [.sqrt 4] := by decide +kernel
example : ape .full [pA] [pB] = .ok [.sqrt 29] := by decide +kernel
example : ape .angleDeg [pA] [pB] = .ok [.angle 0 1 true] := by decide +kernel
example : ape .trans [pA, pB] [pB] = .error .unequal := by decide +kernel
example : ape .ratio [pA] [pB] = .error .unsupported := by decide +kernel
/-- the `is_so3` guard of the angle relations refuses a block that is not a rotation -/
example : ape .angleRad [pA] [⟨M3.smul 2 rz, ⟨0, 0, 0⟩⟩] = .error .notSO3 := by decide +kernel
example : apeCore .full (pA.mul pA) (pA.mul pB) = apeCore .full pA pB := by decide +kernel

def optsFull : CommonOpts :=
  ⟨true, some 5, some (1/10, 5), some 0, none, 1/100, -1/2, false, true, 3, true, some .xy, .trans, some .mm⟩
example : apePlan optsFull = .ok [.downsample 5, .motionFilter (1/10) 5, .cropRef (some 0) none,
    .associate (1/100) (-1/2), .align .scaleOnly 3, .alignOrigin, .project .xy, .metricApe .trans, .changeUnit .mm] := by
  decide +kernel
example : apePlan { optsFull with hasStamps := false } = .error .filterNeedsStamps := by decide +kernel

/-- a complete run: 4 reference and 3 estimate poses, `--t_start 1/2 -s --align_origin`; the first reference
pose is cropped, the estimate stamped 1/100 late is associated, scale 2 and the origin transformation applied -/
def runRef : Pipeline.Traj := ⟨[0, 1, 2, 3], [⟨M3.one, ⟨0, 0, 0⟩⟩, ⟨M3.one, ⟨1, 0, 0⟩⟩, ⟨rz, ⟨2, 0, 0⟩⟩, ⟨rz, ⟨3, 1, 0⟩⟩]⟩
def runEst : Pipeline.Traj := ⟨[101/100, 201/100, 301/100], [⟨M3.one, ⟨5, 5, 0⟩⟩, ⟨rz, ⟨11/2, 5, 0⟩⟩, ⟨M3.one, ⟨6, 6, 0⟩⟩]⟩
def runPar : Pipeline.Params := ⟨355/113, ⟨[], #[]⟩, ⟨[], #[]⟩, M3.one, ⟨0, 0, 0⟩, 2, [], [], ⟨[], [], #[]⟩⟩
def runOpts : CommonOpts :=
  ⟨true, none, none, some (1/2), none, 1/50, 0, false, true, -1, true, none, .trans, none⟩
example : Pipeline.apeRun runOpts runPar runRef runEst
    = .ok ⟨[.sqrt 0, .sqrt 0, .sqrt 1], none, [1, 2, 3], [0, 1, 2], [101/100, 201/100, 301/100]⟩ := by decide +kernel
example : Pipeline.apeRun { runOpts with tMaxDiff := 1/1000 } runPar runRef runEst = .error .sync := by decide +kernel
example : Pipeline.apeRun { runOpts with hasStamps := false, correctScale := false } runPar runRef runEst = .error .metrics := by
  decide +kernel
/-- alignment of unequally long paths is refused by Umeyama first -/
example : Pipeline.apeRun { runOpts with hasStamps := false } runPar runRef runEst = .error .geometry := by decide +kernel

end Evo.C01
