/-
C03 — Umeyama alignment returns a proper rotation that is least-squares optimal.

`numpy.linalg.svd` is not modelled. The theorems say: *every* output `(R, t, c)` that passes the
executable certificate `Ume.umeCert 0` (Model/Umeyama.lean) for the inputs `x`, `y` is a proper
rotation, has positive scale (exactly 1 without scale estimation) and minimises the sum of
squared residuals over all proper rotations, translations (and scales); the driver evaluates
`umeCert ε` (ε = 2⁻³⁰) on evo's actual output on every run.
-/
import EvoModel.Lemmas.UmeyamaApprox
import EvoModel.Lemmas.UmeyamaUnique
namespace Evo.C03
open Evo Evo.Ume

/-- **completing the square** (ℚ instance of `Ume.resid_decomp`), for orthonormal `R`:
`Σ‖y_i − (cRx_i + t)‖² = n(σ_y² + c²σ_x² − 2c·tr(Rᵀcov)) + n‖t − (μ_y − cRμ_x)‖²` -/
theorem resid_decomp (x y : List (V3 Rat)) (R : M3 Rat) (t : V3 Rat) (c : Rat)
    (hlen : x.length = y.length) (hne : x ≠ []) (hR : IsOrtho R) :
    resid x y R t c = cnt x * (var y + c^2 * var x - 2 * c * (amat x y R).trace)
      + cnt x * V3.normSq (V3.sub t (tFormula x y R c)) :=
  Ume.resid_decomp x y R t c hlen (cnt_pos x hne).ne' hR

/-- **the core**: under the certificate, `tr(R'ᵀ·cov) ≤ tr(Rᵀ·cov)` for every proper rotation `R'` -/
theorem traceMax_of_cert (ws : Bool) (x y : List (V3 Rat)) (R : M3 Rat) (t : V3 Rat) (c : Rat)
    (h : umeCert 0 ws x y R t c = true) (R' : M3 Rat) (hR' : IsRot R') :
    (amat x y R').trace ≤ (amat x y R).trace :=
  Ume.traceMax_of_cert (cert_of_umeCert h) R' hR'

/-- **proper rotation**: orthonormal with determinant `+1`, never a reflection -/
theorem umeyama_proper (ws : Bool) (x y : List (V3 Rat)) (R : M3 Rat) (t : V3 Rat) (c : Rat)
    (h : umeCert 0 ws x y R t c = true) :
    R.transpose.mul R = M3.one ∧ R.det = 1 :=
  (cert_of_umeCert h).rot

/-- **positive scale, exactly 1 when scale estimation is off** -/
theorem umeyama_scale_pos (ws : Bool) (x y : List (V3 Rat)) (R : M3 Rat) (t : V3 Rat) (c : Rat)
    (h : umeCert 0 ws x y R t c = true) : 0 < c ∧ (ws = false → c = 1) :=
  (cert_of_umeCert h).scale_pos

/-- **least-squares optimal among rigid transformations** (scale estimation off) -/
theorem umeyama_optimal_rigid (x y : List (V3 Rat)) (R : M3 Rat) (t : V3 Rat) (c : Rat)
    (h : umeCert 0 false x y R t c = true) (hlen : x.length = y.length) (hne : x ≠ [])
    (R' : M3 Rat) (t' : V3 Rat) (hR' : IsRot R') :
    resid x y R t c ≤ resid x y R' t' 1 :=
  (cert_of_umeCert h).optimal hlen hne R' t' 1 hR' rfl

/-- **least-squares optimal among similarity transformations** (scale estimation on): every
proper rotation `R'`, translation `t'` and scale `c' ≥ 0` -/
theorem umeyama_optimal_sim (x y : List (V3 Rat)) (R : M3 Rat) (t : V3 Rat) (c : Rat)
    (h : umeCert 0 true x y R t c = true) (hlen : x.length = y.length) (hne : x ≠ [])
    (R' : M3 Rat) (t' : V3 Rat) (c' : Rat) (hR' : IsRot R') (hc' : 0 ≤ c') :
    resid x y R t c ≤ resid x y R' t' c' :=
  (cert_of_umeCert h).optimal hlen hne R' t' c' hR' hc'

/-- the same two statements over an arbitrary ordered field (ℝ in particular), from the
certificate as a proposition -/
theorem umeyama_optimal_field {K : Type} [Field K] [LinearOrder K] [IsStrictOrderedRing K]
    (x y : List (V3 K)) (R : M3 K) (t : V3 K) (c : K) (hlen : x.length = y.length) (hne : x ≠ []) :
    (Cert false x y R t c → ∀ R' t', IsRot R' → resid x y R t c ≤ resid x y R' t' 1) ∧
    (Cert true x y R t c → ∀ R' t' c', IsRot R' → 0 ≤ c' → resid x y R t c ≤ resid x y R' t' c') :=
  ⟨fun h R' t' hR' => h.optimal hlen hne R' t' 1 hR' rfl,
   fun h R' t' c' hR' hc' => h.optimal hlen hne R' t' c' hR' hc'⟩

/-- **certificate up to ε ⇒ optimal up to an explicit bound** (ordered field). `R` an exact proper
rotation; slacks: `ε₂` asymmetry of `A = Rᵀcov`, `ε₃` with `tr(A)I − A + ε₃I ⪰ 0`, `ε₄ ≥ ‖t − (μ_y − cRμ_x)‖²`,
`ε₅ ≥ |cσ_x² − tr A|`. With `τ = 3ε₂ + 3ε₃`:
rigid `resid ≤ resid' + n(ε₄ + 2τ)`; similarity `resid ≤ resid' + n(ε₄ + 2cτ + (ε₅+τ)²/σ_x²)`.
Both bounds vanish with the slacks. The non-orthonormality of evo's float `R₁` is handled by
`umeyama_optimal_approx_checked` (exactly computed residual gap to an exact rational rotation). -/
theorem umeyama_optimal_approx {K : Type} [Field K] [LinearOrder K] [IsStrictOrderedRing K]
    (x y : List (V3 K)) (R : M3 K) (t : V3 K) (c ε₂ ε₃ ε₄ ε₅ : K) (hlen : x.length = y.length) (hne : x ≠ []) :
    (CertApprox false x y R t c ε₂ ε₃ ε₄ ε₅ → ∀ R' t', IsRot R' →
      resid x y R t c ≤ resid x y R' t' 1 + cnt x * (ε₄ + 2 * (3 * ε₂ + 3 * ε₃))) ∧
    (CertApprox true x y R t c ε₂ ε₃ ε₄ ε₅ → ∀ R' t' c', IsRot R' → 0 ≤ c' →
      resid x y R t c ≤ resid x y R' t' c'
        + cnt x * (ε₄ + 2 * c * (3 * ε₂ + 3 * ε₃) + (ε₅ + (3 * ε₂ + 3 * ε₃)) ^ 2 / var x)) :=
  ⟨fun h R' t' hR' => optimal_approx_rigid h hlen hne R' t' hR',
   fun h R' t' c' hR' hc' => optimal_approx_sim h hlen hne R' t' c' hR' hc'⟩

/-- **the executable bound is sound**: whenever `Ume.approxReport` returns a report `r` for an
output `(R₁, t, c)` — `R₁` *not* assumed orthonormal; the report measures the slacks of the exact
rational rotation `quatRot q` of a quaternion hint and adds `(resid(R₁) − resid(quatRot q))/n` —
then `(R₁, t, c)` is optimal up to `n·r.b` among all proper rotations, translations and scales
`c' ≥ 0` (resp. `c' = 1`). The driver evaluates `approxReport` on evo's float output per case. -/
theorem umeyama_optimal_approx_checked (ws : Bool) (x y : List (V3 Rat)) (R₁ : M3 Rat) (t : V3 Rat)
    (c qw qx qy qz : Rat) (r : ApproxReport) (h : approxReport ws x y R₁ t c qw qx qy qz = some r)
    (R' : M3 Rat) (t' : V3 Rat) (c' : Rat) (hR' : IsRot R') (hc' : if ws = true then 0 ≤ c' else c' = 1) :
    resid x y R₁ t c ≤ resid x y R' t' c' + cnt x * r.b := by
  unfold approxReport at h
  split at h
  · cases h
  next hbad =>
  push Not at hbad
  obtain ⟨hq, hlen, hne⟩ := hbad
  -- from here on the quaternion hint matters only through `R = quatRot q` being a proper rotation
  have hrot := isRot_quatRot qw qx qy qz hq
  dsimp only at h
  generalize quatRot qw qx qy qz = R at h hrot
  have hgap : cnt x * ((resid x y R₁ t c - resid x y R t c) / cnt x) = resid x y R₁ t c - resid x y R t c :=
    mul_div_cancel₀ _ (cnt_pos x hne).ne'
  split at h
  · cases h
  next e3 hps =>
  obtain ⟨he3, hpsd⟩ := psdSlack_spec hps
  obtain ⟨s01, s02, s12⟩ := asymMax_spec (amat x y R)
  have hcert : ∀ hsc, CertApprox ws x y R t c (asymMax (amat x y R)) e3 (V3.normSq (V3.sub t (tFormula x y R c)))
      (absR (c * var x - (amat x y R).trace)) := fun hsc => ⟨hrot, s01, s02, s12, he3, hpsd, le_refl _, hsc⟩
  cases ws with
  | true =>
    simp only [if_true] at h hc'
    split at h
    next hcv =>
      obtain rfl := Option.some.inj h
      have := optimal_approx_sim (hcert ⟨(absR_le le_rfl).1, (absR_le le_rfl).2, hcv.1, hcv.2⟩) hlen hne R' t' c' hR' hc'
      rw [pow_two] at this
      dsimp only
      rw [mul_add, hgap]
      linarith
    · cases h
  | false =>
    simp only [Bool.false_eq_true, if_false] at h hc'
    split at h
    next hc1 =>
      obtain rfl := Option.some.inj h
      have := optimal_approx_rigid (hcert hc1) hlen hne R' t' hR'
      dsimp only
      rw [mul_add, hgap, hc']
      linarith
    · cases h

/-- **refusal of the degenerate classes**: unequal sizes, all points of one set coincident, all
points of one set on one coordinate axis — the model raises evo's geometry error -/
theorem umeyama_refuses_degenerate (x y : List (V3 Rat))
    (h : shapeMismatch x y = true ∨ allCoincident x = true ∨ allCoincident y = true
      ∨ onOneCoordinateAxis x = true ∨ onOneCoordinateAxis y = true) :
    umeRefuses x y = true := by
  unfold umeRefuses
  rcases h with h | h | h | h | h
  · simp [h]
  · obtain ⟨d, lam, hc⟩ := collinear_of_degenerate (.inl h); simp [rankLt2_of_collinear_fst d lam hc]
  · obtain ⟨d, lam, hc⟩ := collinear_of_degenerate (.inl h); simp [rankLt2_of_collinear_snd d lam hc]
  · obtain ⟨d, lam, hc⟩ := collinear_of_degenerate (.inr h); simp [rankLt2_of_collinear_fst d lam hc]
  · obtain ⟨d, lam, hc⟩ := collinear_of_degenerate (.inr h); simp [rankLt2_of_collinear_snd d lam hc]

/-- **noise-free data reproduce the generating transformation**: if `y_i = c₀R₀x_i + t₀` exactly
(`R₀` proper, `c₀ > 0`, `c₀ = 1` when scale estimation is off) and the points are not all
collinear (three non-collinear points, i.e. rank ≥ 2 — planar data included), every certified
output *is* `(R₀, t₀, c₀)` -/
theorem umeyama_noise_free (ws : Bool) (x : List (V3 Rat)) (R0 R : M3 Rat) (t0 t : V3 Rat) (c0 c : Rat)
    (hR0 : IsRot R0) (hc0 : 0 < c0) (hws : ws = false → c0 = 1)
    (h : umeCert 0 ws x (x.map (simApply R0 t0 c0)) R t c = true)
    (p0 p1 p2 : V3 Rat) (h0 : p0 ∈ x) (h1 : p1 ∈ x) (h2 : p2 ∈ x)
    (hnc : V3.cross (V3.sub p1 p0) (V3.sub p2 p0) ≠ V3.zero) :
    R = R0 ∧ t = t0 ∧ c = c0 :=
  noise_free ws x R0 R t0 t c0 c hR0 hc0 hws h p0 p1 p2 h0 h1 h2 hnc

/-- **uniqueness of the minimiser** under the decidable condition `certPD` (`tr(A)I − A` positive
definite: second singular value of the covariance positive and not the reflection case with
`d₂ = d₃`): a transformation of the class whose residual is not larger than that of the certified
output is the certified output -/
theorem umeyama_unique (ws : Bool) (x y : List (V3 Rat)) (R : M3 Rat) (t : V3 Rat) (c : Rat)
    (h : umeCert 0 ws x y R t c = true) (hpd : certPD x y R = true) (hlen : x.length = y.length) (hne : x ≠ [])
    (R' : M3 Rat) (t' : V3 Rat) (c' : Rat) (hR' : IsRot R') (hc' : if ws = true then 0 ≤ c' else c' = 1)
    (hle : resid x y R' t' c' ≤ resid x y R t c) : R' = R ∧ t' = t ∧ c' = c :=
  unique_of_cert (cert_of_umeCert h) (isPD_of_certPD (cert_of_umeCert h) hpd) hlen hne R' t' c' hR' hc' hle

/-- **equivariance of the residual**: moving / scaling the inputs by similarities `A` on `x` and `B`
on `y` and composing the transformation to `B∘g∘A⁻¹` multiplies the residual by `s_B²`; the residual
does not depend on the order of the point pairs -/
theorem umeyama_resid_equivariant {K : Type} [Field K] (x y : List (V3 K)) (RA RB R : M3 K) (tA tB t : V3 K)
    (sA sB c : K) (hA : IsOrtho RA) (hB : IsOrtho RB) (hsA : sA ≠ 0) :
    resid (x.map (simApply RA tA sA)) (y.map (simApply RB tB sB))
        (conjRot RA RB R) (conjTrans RA RB R tA tB t sA sB c) (conjScale sA sB c) = sB ^ 2 * resid x y R t c ∧
    ∀ x' y' : List (V3 K), (x.zip y).Perm (x'.zip y') → resid x y R t c = resid x' y' R t c :=
  ⟨resid_equivariant x y RA RB R tA tB t sA sB c hA hB hsA, fun x' y' h => resid_perm x y x' y' h R t c⟩

/-- **equivariance of the result**: for inputs that determine the result uniquely (`certPD` on the
moved data), moving (`R_A,t_A` / `R_B,t_B` proper), scaling (`s_A, s_B > 0`; equal when scale
estimation is off) and permuting the point pairs changes the certified result by exactly the
corresponding composition `B ∘ (R,t,c) ∘ A⁻¹` -/
theorem umeyama_equivariant (ws : Bool) (x y x' y' : List (V3 Rat)) (R R₂ RA RB : M3 Rat) (t t₂ tA tB : V3 Rat)
    (c c₂ sA sB : Rat)
    (h1 : umeCert 0 ws x y R t c = true) (h2 : umeCert 0 ws x' y' R₂ t₂ c₂ = true) (hpd : certPD x' y' R₂ = true)
    (hperm : (x'.zip y').Perm ((x.map (simApply RA tA sA)).zip (y.map (simApply RB tB sB))))
    (hlen : x.length = y.length) (hne : x ≠ []) (hlen' : x'.length = y'.length) (hne' : x' ≠ [])
    (hA : IsRot RA) (hB : IsRot RB) (hsA : 0 < sA) (hsB : 0 < sB) (hws : ws = false → sA = sB) :
    R₂ = conjRot RA RB R ∧ t₂ = conjTrans RA RB R tA tB t sA sB c ∧ c₂ = conjScale sA sB c := by
  have c1 := cert_of_umeCert h1
  have c2 := cert_of_umeCert h2
  have pd2 := isPD_of_certPD c2 hpd
  have hGrot : IsRot (conjRot RA RB R) := hB.mul (c1.rot.mul hA.transpose)
  have hGc := conjScale_class hsA hsB hws c1.scale_pos
  -- on the moved data the composition is no worse than the second result: pulled back to `(x, y)`, the
  -- second result is in the class of the first problem, where `(R, t, c)` is optimal
  have hle : resid x' y' (conjRot RA RB R) (conjTrans RA RB R tA tB t sA sB c) (conjScale sA sB c)
      ≤ resid x' y' R₂ t₂ c₂ := by
    rw [resid_perm x' y' _ _ hperm, resid_perm x' y' _ _ hperm,
      resid_equivariant x y RA RB R tA tB t sA sB c hA.1 hB.1 hsA.ne',
      resid_map_of_comm x y _ tB sB hB.1 (pull_apply RA RB R₂ tA tB t₂ sA sB c₂ hB.1 hsB.ne')]
    exact mul_le_mul_of_nonneg_left (c1.optimal hlen hne _ _ _ (hB.transpose.mul (c2.rot.mul hA))
      (conjScale_class hsB hsA (fun h => (hws h).symm) c2.scale_pos)) (sq_nonneg sB)
  obtain ⟨e1, e2, e3⟩ := unique_of_cert c2 pd2 hlen' hne' _ _ _ hGrot hGc hle
  exact ⟨e1.symm, e2.symm, e3.symm⟩

/-! ### non-vacuity: concrete instances on which the hypotheses hold -/

def exX : List (V3 Rat) := [⟨0, 0, 0⟩, ⟨1, 0, 0⟩, ⟨0, 2, 0⟩, ⟨0, 0, 3⟩, ⟨1, 1, 1⟩]
/-- rotation by 90° about z -/
def exR : M3 Rat := ⟨0, -1, 0, 1, 0, 0, 0, 0, 1⟩
/-- `y = 2·R·x + (1, 2, 3)`, the last point disturbed -/
def exY : List (V3 Rat) := [⟨1, 2, 3⟩, ⟨1, 4, 3⟩, ⟨-3, 2, 3⟩, ⟨1, 2, 9⟩, ⟨-1, 4, 6⟩]
/-- an octahedron and its mirror image (reflection in the xy-plane): the optimal orthogonal map is improper -/
def exO : List (V3 Rat) := [⟨3, 0, 0⟩, ⟨-3, 0, 0⟩, ⟨0, 2, 0⟩, ⟨0, -2, 0⟩, ⟨0, 0, 1⟩, ⟨0, 0, -1⟩]
def exM : List (V3 Rat) := [⟨3, 0, 0⟩, ⟨-3, 0, 0⟩, ⟨0, 2, 0⟩, ⟨0, -2, 0⟩, ⟨0, 0, -1⟩, ⟨0, 0, 1⟩]

/-- noise-free similarity data: the generating transformation passes the certificate -/
example : umeCert 0 true exX (exX.map (simApply exR ⟨1, 2, 3⟩ 2)) exR ⟨1, 2, 3⟩ 2 = true := by decide +kernel
example : umeCert 0 false exX (exX.map (simApply exR ⟨1, 2, 3⟩ 1)) exR ⟨1, 2, 3⟩ 1 = true := by decide +kernel
/-- mirrored data: the certified optimum is a proper rotation (here the identity), not the mirror -/
example : umeCert 0 false exO exM M3.one ⟨0, 0, 0⟩ 1 = true := by decide +kernel
/-- … and the reflection itself, although it has residual 0, is rejected by the certificate -/
example : umeCert 0 false exO exM ⟨1, 0, 0, 0, 1, 0, 0, 0, -1⟩ ⟨0, 0, 0⟩ 1 = false := by decide +kernel
/-- data that are not a similarity image of each other (residual > 0): certified optimum with scale 15/14 -/
example : umeCert 0 true exO [⟨3, 0, 0⟩, ⟨-3, 0, 0⟩, ⟨0, 2, 0⟩, ⟨0, -2, 0⟩, ⟨0, 0, 2⟩, ⟨0, 0, -2⟩] M3.one ⟨0, 0, 0⟩ (15/14) = true := by
  decide +kernel
/-- degenerate inputs are refused, generic ones are not -/
example : umeRefuses [⟨1, 0, 0⟩, ⟨2, 0, 0⟩, ⟨5, 0, 0⟩] [⟨1, 2, 3⟩, ⟨0, 1, 0⟩, ⟨2, 2, 1⟩] = true := by decide +kernel
example : umeRefuses exX exY = false := by decide +kernel
/-- `exX` contains three non-collinear points (hypothesis of `umeyama_noise_free`) -/
example : V3.cross (V3.sub (⟨1, 0, 0⟩ : V3 Rat) ⟨0, 0, 0⟩) (V3.sub ⟨0, 2, 0⟩ ⟨0, 0, 0⟩) ≠ V3.zero := by decide +kernel

/-- a slightly non-orthonormal, slightly sub-optimal output still gets a (small, positive) bound:
the report exists, so `umeyama_optimal_approx_checked` is not vacuous -/
example : (approxReport true exO [⟨3, 0, 0⟩, ⟨-3, 0, 0⟩, ⟨0, 2, 0⟩, ⟨0, -2, 0⟩, ⟨0, 0, 2⟩, ⟨0, 0, -2⟩]
    ⟨1, 1/1000, 0, -1/1000, 1, 0, 0, 0, 1⟩ ⟨1/1000, 0, 0⟩ (15/14 + 1/1000) 1 0 0 (1/2000)).isSome = true := by
  decide +kernel

/-- the uniqueness condition is satisfiable: it holds for the generic example, and for the mirrored
octahedron (reflection case, `d₂ = 2²/3 > d₃ = 1/3`) -/
example : certPD exX (exX.map (simApply exR ⟨1, 2, 3⟩ 2)) exR = true := by decide +kernel
example : certPD exO exM M3.one = true := by decide +kernel
/-- … and fails where the minimiser really is not unique: the regular octahedron mirrored
(reflection case with `d₁ = d₂ = d₃`) -/
example : certPD [⟨1, 0, 0⟩, ⟨-1, 0, 0⟩, ⟨0, 1, 0⟩, ⟨0, -1, 0⟩, ⟨0, 0, 1⟩, ⟨0, 0, -1⟩]
    [⟨1, 0, 0⟩, ⟨-1, 0, 0⟩, ⟨0, 1, 0⟩, ⟨0, -1, 0⟩, ⟨0, 0, -1⟩, ⟨0, 0, 1⟩] M3.one = false := by decide +kernel

end Evo.C03
