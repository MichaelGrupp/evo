/-
C04 — trajectory alignment applies exactly the returned transform, never worsens the fit.
Theorems about `Evo.Align` (model of PosePath3D.scale/transform/align/align_origin and of the
alignment block of ape()/rpe() after fix aaba970). The Umeyama triple `(R, t, s)` is an input of
the model; its properties come from C03 through the certificate `Ume.umeCert 0`.
-/
import EvoModel.Lemmas.Align
import EvoModel.Lemmas.UmeyamaUnique
namespace Evo.C04
open Evo Evo.Ume Evo.Align

set_option linter.unusedSectionVars false
variable {K : Type} [Field K]

/-- **every pose is moved by exactly the returned similarity** (similarity mode): position
`p ↦ s·R·p + t`, orientation `R_p ↦ R·R_p`; rigid mode: the same with `s = 1`. -/
theorem align_is_similarity (R : M3 K) (t : V3 K) (s : K) (ps : List (Pose K)) :
    alignApply .sim3 R t s ps = ps.map (fun p => ⟨R.mul p.rot, V3.add (V3.smul s (R.mulVec p.t)) t⟩) ∧
    alignApply .se3 R t s ps = ps.map (fun p => ⟨R.mul p.rot, V3.add (V3.smul 1 (R.mulVec p.t)) t⟩) :=
  ⟨alignApply_sim3 R t s ps, alignApply_se3 R t s ps⟩

/-- **scale-only mode multiplies positions by `s` and changes nothing else** -/
theorem align_scaleOnly (R : M3 K) (t : V3 K) (s : K) (ps : List (Pose K)) :
    alignApply .scaleOnly R t s ps = ps.map (fun p => ⟨p.rot, V3.smul s p.t⟩) ∧
    (alignApply .scaleOnly R t s ps).map Pose.rot = ps.map Pose.rot := by
  refine ⟨rfl, ?_⟩
  simp [alignApply, scalePath, List.map_map, Function.comp_def]

/-- the number of poses never changes, in any mode -/
theorem align_length (m : Mode) (R : M3 K) (t : V3 K) (s : K) (ps : List (Pose K)) :
    (alignApply m R t s ps).length = ps.length := by
  cases m <;> simp [alignApply, transformLeft, scalePath]

/-- **determined from the first `n` pose pairs only**: `n = -1` uses all positions; for `n ≥ 0`
the point sets handed to Umeyama are the positions of the first `n` poses, whatever follows. -/
theorem align_uses_firstN (est ref : List (Pose K)) :
    alignInputs (-1) est ref = (positions est, positions ref) ∧
    ∀ (n : Int) (e1 e2 r1 r2 : List (Pose K)), 0 ≤ n → e1.length = n.toNat → r1.length = n.toNat →
      alignInputs n (e1 ++ e2) (r1 ++ r2) = (positions e1, positions r1) := by
  refine ⟨by simp [alignInputs, firstN_neg_one], ?_⟩
  intro n e1 e2 r1 r2 hn he hr
  simp only [alignInputs, positions, List.map_append]
  rw [firstN_append n hn _ _ (by simpa using he), firstN_append n hn _ _ (by simpa using hr)]

/-- **unequal numbers of poses are refused**: when the point sets handed to Umeyama (the first-`n`
positions of each trajectory; `n = -1`: all of them) differ in size, the model raises evo's geometry
error — in particular a reference longer than the estimate is not silently cut (`n = -1`) -/
theorem align_refuses_unequal (n : Int) (est ref : List (Pose Rat))
    (h : (alignInputs n est ref).1.length ≠ (alignInputs n est ref).2.length) :
    umeRefuses (alignInputs n est ref).1 (alignInputs n est ref).2 = true ∧
    (n = -1 → est.length ≠ ref.length → umeRefuses (positions est) (positions ref) = true) := by
  refine ⟨by simp [umeRefuses, shapeMismatch, h], fun _ hl => ?_⟩
  simp [umeRefuses, shapeMismatch, positions, hl]

/-- **origin mode maps the first pose onto the reference's first pose** -/
theorem alignOrigin_first_pose (r0 e0 : Pose K) (rs es : List (Pose K)) (he : IsRigid e0) :
    ∃ T ps, alignOrigin (r0 :: rs) (e0 :: es) = some (T, r0 :: ps) ∧ T = r0.mul e0.inv := by
  refine ⟨r0.mul e0.inv, transformLeft (r0.mul e0.inv) es, ?_, rfl⟩
  simp only [alignOrigin, transformLeft, List.map_cons]
  rw [Pose.mul_assoc', Pose.inv_mul_self he, Pose.mul_one']

/-- **origin mode preserves all relative poses** (`rel (T·a) (T·b) = rel a b`), for valid
(rigid) first poses; every pose is moved by the returned matrix `T = ref₀·est₀⁻¹` -/
theorem alignOrigin_preserves_rel (ref est : List (Pose K)) (T : Pose K) (ps : List (Pose K))
    (h : alignOrigin ref est = some (T, ps))
    (hr : ∀ p ∈ ref, IsRigid p) (he : ∀ p ∈ est, IsRigid p) :
    ps = est.map (fun p => T.mul p) ∧ IsRigid T ∧ ∀ a b : Pose K, (T.mul a).rel (T.mul b) = a.rel b := by
  obtain ⟨⟨r0, rs, e0, es, rfl, rfl, rfl⟩, hps⟩ := alignOrigin_eq_some h
  have hrig : IsRigid (r0.mul e0.inv) := IsRigid.mul (hr r0 (by simp)) (he e0 (by simp)).inv
  exact ⟨hps, hrig, fun a b => Pose.rel_left_invariant _ a b hrig⟩

/-- empty trajectories are refused by origin alignment -/
theorem alignOrigin_refuses_empty (l : List (Pose K)) :
    alignOrigin ([] : List (Pose K)) l = none ∧ alignOrigin l ([] : List (Pose K)) = none := by
  constructor
  · simp [alignOrigin]
  · cases l <;> simp [alignOrigin]

/-- the squared translation error over the poses used, after alignment, *is* the Umeyama residual
of the returned parameters (similarity mode; rigid mode with `s = 1`), and that of the unaligned estimate is
the residual of the identity (`n` as in `align`) -/
theorem align_sse_eq_resid (n : Int) (R : M3 K) (t : V3 K) (s : K) (est ref : List (Pose K)) :
    sse (firstN n (positions (alignApply .sim3 R t s est))) (firstN n (positions ref))
      = resid (alignInputs n est ref).1 (alignInputs n est ref).2 R t s ∧
    sse (firstN n (positions (alignApply .se3 R t s est))) (firstN n (positions ref))
      = resid (alignInputs n est ref).1 (alignInputs n est ref).2 R t 1 ∧
    sse (firstN n (positions est)) (firstN n (positions ref))
      = resid (alignInputs n est ref).1 (alignInputs n est ref).2 M3.one V3.zero 1 := by
  refine ⟨?_, ?_, ?_⟩
  · rw [alignApply_sim3, ← sse_map]
    simp only [positions, alignInputs, List.map_map, firstN_map]
    rfl
  · rw [alignApply_se3, ← sse_map]
    simp only [positions, alignInputs, List.map_map, firstN_map]
    rfl
  · exact sse_eq_resid_id _ _

section rat

/-- **RMSE after rigid / similarity alignment is never larger than under any other transformation of the
same class** (sum of squared position errors over the poses used), given that the returned triple passes
the C03 certificate on the point sets `align` hands to Umeyama -/
theorem align_rmse_optimal (n : Int) (ws : Bool) (R : M3 Rat) (t : V3 Rat) (s : Rat) (est ref : List (Pose Rat))
    (hc : umeCert 0 ws (alignInputs n est ref).1 (alignInputs n est ref).2 R t s = true)
    (hlen : (alignInputs n est ref).1.length = (alignInputs n est ref).2.length)
    (hne : (alignInputs n est ref).1 ≠ [])
    (R' : M3 Rat) (t' : V3 Rat) (s' : Rat) (hR' : IsRot R') (hs' : if ws then 0 ≤ s' else s' = 1) :
    sse (firstN n (positions (alignApply (if ws then .sim3 else .se3) R t s est))) (firstN n (positions ref))
      ≤ sse (firstN n (positions (alignApply .sim3 R' t' s' est))) (firstN n (positions ref)) := by
  obtain ⟨h1, h2, _⟩ := align_sse_eq_resid n R t s est ref
  have c := cert_of_umeCert hc
  rw [(align_sse_eq_resid n R' t' s' est ref).1]
  have := c.optimal hlen hne R' t' s' hR' hs'
  cases ws with
  | true => rwa [if_pos rfl, h1]
  | false => rwa [if_neg Bool.false_ne_true, h2, ← c.scale_pos.2 rfl]

/-- **… in particular never larger than before**: the identity is in the class -/
theorem align_rmse_not_worse (n : Int) (ws : Bool) (R : M3 Rat) (t : V3 Rat) (s : Rat) (est ref : List (Pose Rat))
    (hc : umeCert 0 ws (alignInputs n est ref).1 (alignInputs n est ref).2 R t s = true)
    (hlen : (alignInputs n est ref).1.length = (alignInputs n est ref).2.length)
    (hne : (alignInputs n est ref).1 ≠ []) :
    sse (firstN n (positions (alignApply (if ws then .sim3 else .se3) R t s est))) (firstN n (positions ref))
      ≤ sse (firstN n (positions est)) (firstN n (positions ref)) := by
  obtain ⟨h1, -, h3⟩ := align_sse_eq_resid n M3.one V3.zero 1 est ref
  rw [h3, ← h1]
  exact align_rmse_optimal n ws R t s est ref hc hlen hne M3.one V3.zero 1 IsRot.one (by cases ws <;> simp)

/-- **aligning an already aligned trajectory again is the identity**: `(R, t, s)` certified for the
point sets `(x, y)` in mode `ws`; the aligned points are `x' = s·R·x + t` (`s = 1` in rigid mode); a
second alignment `(R₂, t₂, s₂)` certified for `(x', y)` in the same mode, under the uniqueness
condition `certPD` (decidable; see `C03.umeyama_unique`), is exactly `(I, 0, 1)`. -/
theorem align_twice_identity (ws : Bool) (x y : List (V3 Rat)) (R R₂ : M3 Rat) (t t₂ : V3 Rat) (s s₂ : Rat)
    (h1 : umeCert 0 ws x y R t s = true)
    (h2 : umeCert 0 ws (x.map (simApply R t s)) y R₂ t₂ s₂ = true)
    (hpd : certPD (x.map (simApply R t s)) y R₂ = true)
    (hlen : x.length = y.length) (hne : x ≠ []) :
    R₂ = M3.one ∧ t₂ = V3.zero ∧ s₂ = 1 := by
  have c1 := cert_of_umeCert h1
  have c2 := cert_of_umeCert h2
  have hlen' : (x.map (simApply R t s)).length = y.length := by simpa using hlen
  have hne' : x.map (simApply R t s) ≠ [] := by simpa using hne
  have hle : resid (x.map (simApply R t s)) y M3.one V3.zero 1 ≤ resid (x.map (simApply R t s)) y R₂ t₂ s₂ := by
    rw [← sse_eq_resid_id, sse_map, resid_map_comp]
    refine c1.optimal hlen hne _ _ _ (c2.rot.mul c1.rot) ?_
    cases ws with
    | true => exact mul_nonneg c2.scale_pos.1.le c1.scale_pos.1.le
    | false => simp only [Bool.false_eq_true, if_false]; rw [c2.scale_pos.2 rfl, c1.scale_pos.2 rfl, mul_one]
  have hcls : if ws = true then (0:Rat) ≤ 1 else (1:Rat) = 1 := by cases ws <;> simp
  obtain ⟨e1, e2, e3⟩ := unique_of_cert c2 (isPD_of_certPD c2 hpd) hlen' hne' M3.one V3.zero 1 IsRot.one hcls hle
  exact ⟨e1.symm, e2.symm, e3.symm⟩

end rat

/-- **the recorded `alignment_transformation_sim3` maps the unaligned estimate onto the stored
estimate**, for every combination of `align`, `correct_scale`, `align_origin` (8 cases; when
nothing is requested no matrix is recorded and the estimate is untouched). `s ≠ 0`, and `s = 1`
when scale correction is off — both guaranteed by C03 (`umeyama_scale_pos`). -/
theorem recorded_matrix_maps_unaligned_to_stored (o : Opts) (R : M3 K) (t : V3 K) (s : K)
    (ref est stored : List (Pose K)) (M : Option (Pose K))
    (h : apeAlign o R t s ref est = some (stored, M)) (hs : s ≠ 0) (hs1 : o.correctScale = false → s = 1) :
    (∀ M', M = some M' → stored = est.map (moveBy M' (if o.correctScale then s else 1))) ∧
    (M = none → stored = est ∧ o.align = false ∧ o.correctScale = false ∧ o.alignOrigin = false) := by
  obtain ⟨a, c, og⟩ := o
  have hsim : alignApply .sim3 R t s est = est.map (moveBy (Pose.sim3 R t s) s) := by
    rw [alignApply_sim3, moveBy_sim3 R t s hs]
  have hse : s = 1 → alignApply .se3 R t s est = est.map (moveBy (Pose.sim3 R t s) 1) := by
    rintro rfl
    rw [alignApply_se3, moveBy_sim3 R t 1 one_ne_zero]
  have hsc : alignApply .scaleOnly R t s est = est.map (moveBy (Pose.sim3 M3.one V3.zero s) s) := by
    rw [alignApply_scaleOnly, moveBy_scale s hs]
  have hid : est = est.map (moveBy (Pose.one : Pose K) 1) := by
    simp only [moveBy_rigid, Pose.one_mul', List.map_id']
  -- without origin alignment the matrix of `align` is recorded
  have direct : ∀ {P : Prop} (est1 : List (Pose K)) (m : Pose K) (σ : K), est1 = est.map (moveBy m σ) →
      some (est1, some m) = some (stored, M) →
      (∀ M', M = some M' → stored = est.map (moveBy M' σ)) ∧ (M = none → P) := by
    intro P est1 m σ h1 h
    simp only [Option.some.injEq, Prod.mk.injEq] at h
    obtain ⟨rfl, rfl⟩ := h
    exact ⟨fun M' hM => Option.some.inj hM ▸ h1, nofun⟩
  -- with origin alignment `T = ref₀·est₁₀⁻¹` multiplies every pose and the recorded matrix from the left
  have origin : ∀ {P : Prop} (est1 : List (Pose K)) (m : Pose K) (σ : K) (f : Pose K → Pose K),
      est1 = est.map (moveBy m σ) → (∀ T, f T = T.mul m) →
      (match alignOrigin ref est1 with
        | none => none
        | some (T, est2) => some (est2, some (f T))) = some (stored, M) →
      (∀ M', M = some M' → stored = est.map (moveBy M' σ)) ∧ (M = none → P) := by
    intro P est1 m σ f h1 hf h
    cases hO : alignOrigin ref est1 with
    | none => rw [hO] at h; cases h
    | some Tp =>
      obtain ⟨T, ps⟩ := Tp
      rw [hO] at h
      refine direct ps (T.mul m) σ ?_ (hf T ▸ h)
      rw [(alignOrigin_eq_some hO).2, h1, moveBy_mul, transformLeft, List.map_map]
      rfl
  cases a <;> cases c <;> cases og <;>
    simp only [apeAlign, Opts.mode, Opts.onlyScale, modeOf, Bool.or_false, Bool.or_true, Bool.and_true,
      Bool.and_false, Bool.not_true, Bool.not_false, Bool.false_eq_true, if_false, if_true] at h hs1
  · -- nothing requested
    simp only [Option.some.injEq, Prod.mk.injEq] at h
    obtain ⟨rfl, rfl⟩ := h
    exact ⟨nofun, fun _ => ⟨rfl, rfl, rfl, rfl⟩⟩
  · -- origin only: `T` itself is recorded
    exact origin est Pose.one 1 _ hid (fun T => (Pose.mul_one' T).symm) h
  · -- scale only
    exact direct _ _ s hsc h
  · -- scale + origin
    exact origin _ _ s _ hsc (fun _ => rfl) h
  · -- rigid
    exact direct _ _ 1 (hse (hs1 trivial)) h
  · -- rigid + origin
    exact origin _ _ 1 _ (hse (hs1 trivial)) (fun _ => rfl) h
  · -- similarity
    exact direct _ _ s hsim h
  · -- similarity + origin
    exact origin _ _ s _ hsim (fun _ => rfl) h

/-! ### the code before fix aaba970 (finding F5): kernel-checked counterexamples -/

def cxRef : List (Pose Rat) := [⟨M3.one, ⟨0, 0, 0⟩⟩, ⟨M3.one, ⟨2, 0, 0⟩⟩, ⟨M3.one, ⟨2, 4, 0⟩⟩, ⟨M3.one, ⟨0, 4, 6⟩⟩]
def cxEst : List (Pose Rat) := [⟨M3.one, ⟨1, 1, 1⟩⟩, ⟨M3.one, ⟨2, 1, 1⟩⟩, ⟨M3.one, ⟨2, 3, 1⟩⟩, ⟨M3.one, ⟨1, 3, 4⟩⟩]
/-- rotation by 90° about z -/
def cxR : M3 Rat := ⟨0, -1, 0, 1, 0, 0, 0, 0, 1⟩

/-- scale correction alone: the old code recorded `sim3(R, t, s)` although only `s` was applied -/
theorem recorded_matrix_counterexample_scaleOnly :
    ∃ stored M, apeAlignOld ⟨false, true, false⟩ cxR ⟨1, 2, 3⟩ 2 cxRef cxEst = some (stored, some M)
      ∧ stored ≠ cxEst.map (moveBy M 2) := by
  refine ⟨_, _, rfl, ?_⟩
  decide +kernel

/-- scale correction + origin alignment: the old code recorded only the origin transformation -/
theorem recorded_matrix_counterexample_scale_then_origin :
    ∃ stored M, apeAlignOld ⟨false, true, true⟩ cxR ⟨1, 2, 3⟩ 2 cxRef cxEst = some (stored, some M)
      ∧ stored ≠ cxEst.map (moveBy M 2) ∧ stored ≠ cxEst.map (moveBy M 1) := by
  refine ⟨_, _, rfl, ?_, ?_⟩ <;> decide +kernel

/-- mutant check: applying the scale *after* the rigid transformation is a different map -/
theorem scale_after_transform_differs :
    scalePath 2 (transformLeft (se3 cxR ⟨1, 2, 3⟩) cxEst) ≠ alignApply .sim3 cxR ⟨1, 2, 3⟩ 2 cxEst := by
  decide +kernel

/-! ### non-vacuity -/

/-- the repaired code on the instances of the two counterexamples: a result exists, so the hypotheses of
`recorded_matrix_maps_unaligned_to_stored` hold (`s = 2 ≠ 0`), and with scale correction alone the recorded
matrix does map the estimate onto the stored one -/
example : (apeAlign ⟨false, true, true⟩ cxR ⟨1, 2, 3⟩ 2 cxRef cxEst).isSome = true := by decide +kernel
example : ∃ stored M, apeAlign ⟨false, true, false⟩ cxR ⟨1, 2, 3⟩ 2 cxRef cxEst = some (stored, some M)
    ∧ stored = cxEst.map (moveBy M 2) := ⟨_, _, rfl, by decide +kernel⟩
/-- origin alignment of rigid poses: defined, first pose = reference's first pose -/
example : ∃ T ps, alignOrigin cxRef cxEst = some (T, ps) ∧ ps.head? = cxRef.head? := ⟨_, _, rfl, by decide +kernel⟩
/-- a certified Umeyama triple on trajectory positions (octahedron, scale 15/14) — the hypotheses of
`align_rmse_not_worse` / `align_rmse_optimal` are satisfiable with a non-zero residual -/
def oEst : List (Pose Rat) :=
  [⟨M3.one, ⟨3, 0, 0⟩⟩, ⟨M3.one, ⟨-3, 0, 0⟩⟩, ⟨M3.one, ⟨0, 2, 0⟩⟩, ⟨M3.one, ⟨0, -2, 0⟩⟩, ⟨M3.one, ⟨0, 0, 1⟩⟩, ⟨M3.one, ⟨0, 0, -1⟩⟩]
def oRef : List (Pose Rat) :=
  [⟨M3.one, ⟨3, 0, 0⟩⟩, ⟨M3.one, ⟨-3, 0, 0⟩⟩, ⟨M3.one, ⟨0, 2, 0⟩⟩, ⟨M3.one, ⟨0, -2, 0⟩⟩, ⟨M3.one, ⟨0, 0, 2⟩⟩, ⟨M3.one, ⟨0, 0, -2⟩⟩,
   ⟨M3.one, ⟨7, 7, 7⟩⟩]
example : umeCert 0 true (alignInputs 6 (oEst ++ [⟨M3.one, ⟨9, 9, 9⟩⟩]) oRef).1 (alignInputs 6 (oEst ++ [⟨M3.one, ⟨9, 9, 9⟩⟩]) oRef).2
    M3.one ⟨0, 0, 0⟩ (15/14) = true := by decide +kernel

/-- hypotheses of `align_twice_identity` are satisfiable: octahedron aligned with scale 15/14, the
second alignment `(I, 0, 1)` is certified for the aligned points and `certPD` holds -/
example : umeCert 0 true ((alignInputs 6 oEst oRef).1.map (simApply M3.one ⟨0, 0, 0⟩ (15/14))) (alignInputs 6 oEst oRef).2
      M3.one ⟨0, 0, 0⟩ 1 = true
    ∧ certPD ((alignInputs 6 oEst oRef).1.map (simApply M3.one ⟨0, 0, 0⟩ (15/14))) (alignInputs 6 oEst oRef).2 M3.one = true := by
  decide +kernel

end Evo.C04
