/-
C05 — time association pairs each pose with its nearest counterpart within max_diff.
Property theorems about `Evo.Sync` (model of evo/core/sync.py after the F8 repair) and the
counterexample for the pinned code. The lemmas about the raw scan and `keepBest` are in `Lemmas/Sync.lean`.
-/
import EvoModel.Lemmas.Sync
import EvoModel.Lemmas.ReduceIds
namespace Evo.C05
open Evo Evo.Sync

/-- **within max_diff, nearest counterpart, no other pairs**: every produced pair `(i, j)`
consists of valid indices, `|s₂[j] + off − s₁[i]| ≤ maxDiff`, and `j` is a nearest
counterpart of `i` (the first one among equally near ones). -/
theorem match_within_and_nearest (s1 s2 : List Rat) (md off : Rat) (p : Nat × Nat)
    (hp : p ∈ matchIdx s1 s2 md off) :
    ∃ (hi : p.1 < s1.length) (hj : p.2 < s2.length),
      dist off s1[p.1] s2[p.2] ≤ md ∧
      p.2 = argminFirst (dist off s1[p.1]) s2 ∧
      ∀ k (hk : k < s2.length), dist off s1[p.1] s2[p.2] ≤ dist off s1[p.1] s2[k] := by
  obtain ⟨m, hm, rfl⟩ := List.mem_map.mp hp
  obtain ⟨hi, hj, hjarg, hd, hle⟩ := mem_rawMatches.mp ((keepBest_sublist _).subset hm)
  refine ⟨hi, hj, hd ▸ hle, hjarg, fun k hk => ?_⟩
  have := (argminFirst_spec (dist off s1[m.i]) s2 (List.ne_nil_of_length_pos (Nat.zero_lt_of_lt hj))).2.1 k hk
  simpa only [← hjarg] using this

/-- the driving indices are strictly increasing (each driving pose used at most once, in order) -/
theorem match_fst_strictly_increasing (s1 s2 : List Rat) (md off : Rat) :
    ((matchIdx s1 s2 md off).map Prod.fst).Pairwise (· < ·) := by
  unfold matchIdx
  rw [List.map_map]
  have h : (keepBest (rawMatches s1 s2 md off)).Pairwise (fun a b => a.i < b.i) :=
    rawMatches_fst_lt.sublist (keepBest_sublist _)
  exact List.pairwise_map.mpr (by simpa using h)

/-- no pose of the searched trajectory is used more than once (false before the F8 repair) -/
theorem match_snd_nodup (s1 s2 : List Rat) (md off : Rat) :
    ((matchIdx s1 s2 md off).map Prod.snd).Nodup := by
  unfold matchIdx
  rw [List.map_map]
  have hnd : (keepBest (rawMatches s1 s2 md off)).Nodup :=
    (rawMatches_fst_lt.imp fun {a b} h e => by subst e; omega).sublist (keepBest_sublist _)
  exact hnd.map_on fun a ha b hb hab => keepBest_snd_inj _ (fun _ ha _ hb => rawMatches_fst_inj ha hb) a b ha hb hab

/-- **completeness**: a driving pose `i` whose (first) nearest counterpart `j` lies within `maxDiff`
and is the counterpart in no other driving pose's raw match is paired with `j`. -/
theorem match_complete (s1 s2 : List Rat) (md off : Rat) (i : Nat) (hi : i < s1.length)
    (hne : s2 ≠ [])
    (hle : dist off s1[i] (s2[argminFirst (dist off s1[i]) s2]'(argminFirst_spec _ s2 hne).1) ≤ md)
    (huncontested : ∀ m' ∈ rawMatches s1 s2 md off, m'.i ≠ i →
        m'.j ≠ argminFirst (dist off s1[i]) s2) :
    (i, argminFirst (dist off s1[i]) s2) ∈ matchIdx s1 s2 md off := by
  have hj := (argminFirst_spec (dist off s1[i]) s2 hne).1
  have hraw : ⟨i, argminFirst (dist off s1[i]) s2, dist off s1[i] s2[argminFirst (dist off s1[i]) s2]⟩
      ∈ rawMatches s1 s2 md off := mem_rawMatches.mpr ⟨hi, hj, rfl, rfl, hle⟩
  unfold matchIdx
  refine List.mem_map.mpr ⟨_, mem_keepBest.mpr ⟨hraw, fun m' hm' => beats_eq_false_iff.mpr fun hj' => ?_⟩, rfl⟩
  -- only the match of `i` itself has this counterpart
  have hmi : m'.i = i := by_contra fun hmi => huncontested m' hm' hmi hj'
  obtain rfl := rawMatches_fst_inj hm' hraw hmi
  exact ⟨le_rfl, fun _ => le_rfl⟩

/-- **a contested counterpart goes to the closest driving pose**: whoever is paired with `j`
is at least as close to it as every other driving pose whose nearest counterpart is `j`. -/
theorem match_contested_keeps_closest (s1 s2 : List Rat) (md off : Rat)
    (m : Match) (hm : m ∈ keepBest (rawMatches s1 s2 md off))
    (m' : Match) (hm' : m' ∈ rawMatches s1 s2 md off) (hj : m'.j = m.j) : m.d ≤ m'.d :=
  (beats_eq_false_iff.mp ((mem_keepBest.mp hm).2 m' hm') hj).1

/-- nearest-counterpart indices are monotone in the driving stamp when both lists increase -/
theorem raw_snd_monotone (s1 s2 : List Rat) (md off : Rat)
    (h1 : s1.Pairwise (· < ·)) (h2 : s2.Pairwise (· < ·))
    (a b : Match) (ha : a ∈ rawMatches s1 s2 md off) (hb : b ∈ rawMatches s1 s2 md off)
    (hab : a.i < b.i) : a.j ≤ b.j := by
  obtain ⟨hia, jlta, hja, _⟩ := mem_rawMatches.mp ha
  obtain ⟨hib, jltb, hjb, _⟩ := mem_rawMatches.mp hb
  have hne : s2 ≠ [] := List.ne_nil_of_length_pos (Nat.zero_lt_of_lt jlta)
  by_contra hcon
  have hjlt : b.j < a.j := Nat.lt_of_not_le hcon
  -- `a.j` is the first nearest counterpart of `a.i`, so strictly nearer than the earlier `b.j`, …
  have e1 := (argminFirst_spec (dist off s1[a.i]) s2 hne).2.2 b.j (hja ▸ hjlt)
  -- … yet `b.j` is a nearest counterpart of the later `b.i`
  have e2 := (argminFirst_spec (dist off s1[b.i]) s2 hne).2.1 a.j jlta
  simp only [← hja] at e1
  simp only [← hjb] at e2
  exact absurd e2 (not_le.mpr (nearest_mono (List.pairwise_iff_getElem.mp h1 _ _ hia hib hab)
    (List.pairwise_iff_getElem.mp h2 _ _ jltb jlta hjlt) e1))

/-- **increasing time order** of the searched trajectory's poses as well: with strictly
increasing inputs the counterpart indices are strictly increasing. -/
theorem match_snd_strictly_increasing (s1 s2 : List Rat) (md off : Rat)
    (h1 : s1.Pairwise (· < ·)) (h2 : s2.Pairwise (· < ·)) :
    ((matchIdx s1 s2 md off).map Prod.snd).Pairwise (· < ·) := by
  have hnd := match_snd_nodup s1 s2 md off
  unfold matchIdx at hnd ⊢
  rw [List.map_map] at hnd ⊢
  have hp : (keepBest (rawMatches s1 s2 md off)).Pairwise (fun a b => a.j ≤ b.j) := by
    have hraw : (rawMatches s1 s2 md off).Pairwise (fun a b => a.j ≤ b.j) :=
      List.Pairwise.imp_of_mem
        (fun {a b} ha hb hab => raw_snd_monotone s1 s2 md off h1 h2 a b ha hb hab)
        rawMatches_fst_lt
    exact hraw.sublist (keepBest_sublist _)
  refine List.pairwise_map.mpr ?_
  have hnd' := List.pairwise_map.mp hnd
  refine (hp.and hnd').imp ?_
  intro a b h
  simp only [Function.comp] at h ⊢
  omega

/-- the two synchronized trajectories have equally many poses -/
theorem associate_equal_length (t1 t2 : List Rat) (md off : Rat) (a b : List Nat)
    (h : associateIds t1 t2 md off = .ok (a, b)) : a.length = b.length := by
  simp only [associateIds] at h
  split at h <;> split at h
  · cases h
  · obtain ⟨rfl, rfl⟩ := Prod.mk.inj (Except.ok.inj h); rw [List.length_map, List.length_map]
  · cases h
  · obtain ⟨rfl, rfl⟩ := Prod.mk.inj (Except.ok.inj h); rw [List.length_map, List.length_map]

/-- nothing matches ↔ the synchronization error is raised -/
theorem associate_refuses_empty (t1 t2 : List Rat) (md off : Rat) :
    associateIds t1 t2 md off = .error .sync ↔
      (if t2.length > t1.length then matchIdx t1 t2 md off else matchIdx t2 t1 md (-off)) = [] := by
  simp only [associateIds]
  split <;> split <;> simp_all

/-- **|t₁ − (t₂ + offset)| ≤ max_diff for every pair, whichever input is the longer one** -/
theorem associate_offset_both_orderings (t1 t2 : List Rat) (md off : Rat) (a b : List Nat)
    (h : associateIds t1 t2 md off = .ok (a, b)) :
    ∀ p ∈ List.zip a b, ∃ (hi : p.1 < t1.length) (hj : p.2 < t2.length),
      absR (t1[p.1] - (t2[p.2] + off)) ≤ md := by
  intro p hp
  simp only [associateIds] at h
  split at h <;> split at h
  · cases h
  · -- trajectory 1 drives: `p` is a pair of `matchIdx t1 t2`
    obtain ⟨rfl, rfl⟩ := Prod.mk.inj (Except.ok.inj h)
    rw [List.zip_map', List.mem_map] at hp
    obtain ⟨q, hq, rfl⟩ := hp
    obtain ⟨hi, hj, hle, _⟩ := match_within_and_nearest t1 t2 md off q hq
    refine ⟨hi, hj, ?_⟩
    rw [absR_eq_abs, abs_sub_comm, ← absR_eq_abs]; exact hle
  · cases h
  · -- trajectory 2 drives, with the offset negated: `p` is a swapped pair of `matchIdx t2 t1`
    obtain ⟨rfl, rfl⟩ := Prod.mk.inj (Except.ok.inj h)
    rw [List.zip_map', List.mem_map] at hp
    obtain ⟨q, hq, rfl⟩ := hp
    obtain ⟨hi, hj, hle, _⟩ := match_within_and_nearest t2 t1 md (-off) q hq
    refine ⟨hj, hi, ?_⟩
    rw [show t1[q.2] - (t2[q.1] + off) = t1[q.2] + -off - t2[q.1] by ring]; exact hle

/-- **the k-th poses are unmodified copies of one pose of each input, pose and timestamp
together**: the outputs are index selections of the inputs. -/
theorem associate_poses_are_input_poses {α} (tr1 tr2 : List (Rat × α)) (md off : Rat)
    (o1 o2 : List (Rat × α)) (h : associate tr1 tr2 md off = .ok (o1, o2)) :
    (∃ ids1 ids2, associateIds (tr1.map Prod.fst) (tr2.map Prod.fst) md off = .ok (ids1, ids2) ∧
      o1 = reduceIds tr1 ids1 ∧ o2 = reduceIds tr2 ids2) ∧
    (∀ x ∈ o1, x ∈ tr1) ∧ (∀ x ∈ o2, x ∈ tr2) := by
  unfold associate at h
  split at h
  · cases h
  · next i1 i2 heq =>
    injection h with h; injection h with h1 h2; subst h1 h2
    exact ⟨⟨i1, i2, heq, rfl, rfl⟩, fun _ => mem_reduceIds, fun _ => mem_reduceIds⟩

/-! ### finding F8: the pinned code uses one pose twice -/

/-- stamps `[0, 1/10]` vs `[1/20, 5, 6]`, `maxDiff = 3/50`: the code before the repair pairs
both driving poses with counterpart 0. -/
theorem match_snd_dup_counterexample :
    matchOld [0, 1/10] [1/20, 5, 6] (3/50) 0 = [(0, 0), (1, 0)] := by decide +kernel

theorem match_snd_dup_repaired :
    matchIdx [0, 1/10] [1/20, 5, 6] (3/50) 0 = [(0, 0)] := by decide +kernel

/-! ### non-vacuity: the hypotheses above are met by concrete non-trivial instances -/

example : matchIdx [1, 2, 4] [9/10, 21/10, 3, 41/10, 7] (1/5) 0 = [(0, 0), (1, 1), (2, 3)] := by
  decide +kernel
example : associateIds [9/10, 21/10, 3, 41/10, 7] [1, 2, 4] (1/5) (1/10) = .ok ([0, 1, 3], [0, 1, 2]) := by
  decide +kernel
example : associateIds [1, 2] [10, 11, 12] (1/5) 0 = .error .sync := by decide +kernel
example : ([1, 2, 4] : List Rat).Pairwise (· < ·) := by decide +kernel

end Evo.C05
