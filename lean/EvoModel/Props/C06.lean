/-
C06 — writing and re-reading is lossless.  One fact is taken from outside, about `printf`: each token
evo writes is a literal of the grammar within 2⁻⁵⁵ of its double (`TokenOK`); the driver checks it on
every token of every run.  With it the TUM and KITTI files are read back bit for bit by the model's own
reader, whose `rne` is proved to round to nearest.  JSON strings, ROS bag stamps, the DataFrame bridge
and the member layout of result archives have theorems of their own.  The sign of zero does not exist
in ℚ: `-0.0` is left to the bit-pattern differential of the harness.
-/
import EvoModel.Model.TextFormats
import EvoModel.Model.Json
import EvoModel.Gen.Formats
import EvoModel.Lemmas.F64
import EvoModel.Lemmas.TextFormats
import EvoModel.Lemmas.Json
import EvoModel.Lemmas.Bag
import EvoModel.Lemmas.Containers
import EvoModel.Gen.DfColumns
import EvoModel.Props.C07
namespace Evo.C06
open Evo Evo.Text Evo.F64

def losslessFmt (s : String) : Bool :=
  match fmtSpec s.toList with
  | some (true, d) => decide (18 ≤ d)
  | _ => false

/-- Both `np.savetxt` calls of file_interface.py (TUM and KITTI writers, nothing else) print in
scientific notation with at least 18 significant digits (in the pinned code `%.18e`: 19 digits). -/
theorem savetxt_formats_lossless :
    Evo.Gen.savetxtFormats.map (·.1) = ["write_tum_trajectory_file", "write_kitti_poses_file"] ∧
    ∀ f ∈ Evo.Gen.savetxtFormats, losslessFmt f.2 = true := by
  decide +kernel

/-- For **every** binary64 value `x` (subnormals, 0, the largest finite double) and every rational
`y` within relative distance 2⁻⁵⁵ of it, any round-to-nearest conversion of `y` returns `x`. -/
theorem f64_roundtrip_of_close (x y r : ℚ) (hx : IsF64 x) (hc : Close x y)
    (hr : IsNearestF64 y r) : r = x := nearest_of_close hx hc hr

/-- A decimal correctly rounded to `d ≥ 18` significant digits is that close. -/
theorem digits_suffice (x y : ℚ) (k : ℤ) (d : ℕ) (hd : 18 ≤ d) (hk : (10 : ℚ) ^ k ≤ |x|)
    (hy : |y - x| ≤ (10 : ℚ) ^ (k + 1 - d) / 2) : Close x y :=
  F64.digits_suffice x y k d hd hk hy

/-- The closeness test the driver runs on every token evo writes is the relation of the theorems. -/
theorem close_sound (x y : ℚ) : Text.close x y = true ↔ Close x y := by
  unfold Text.close Close
  rw [decide_eq_true_iff, absR_eq_abs, absR_eq_abs, le_div_iff₀ (by positivity)]
  norm_num

/-- what each run checks for every number `x` evo writes as token `tok x` (driver op `tokrows`) -/
def TokenOK (tok : Rat → Str) (x : Rat) : Prop :=
  IsF64 x ∧ inGrammar (tok x) = true ∧ ∃ y, parseDec (tok x) = some y ∧ Text.close x y = true

/-- The executable rounding `F64.rne` of the model (used by every reader of the model and by
`linspace` in C11) really returns a binary64 value nearest to its argument. -/
theorem rne_nearest (y r : ℚ) (h : F64.rne y = some r) : IsNearestF64 y r := F64.rne_nearest y r h

/-- text → double: every rational within 2⁻⁵⁵ (relative) of a binary64 value `x` is rounded to
exactly `x` by the model's `rne` — no overflow, subnormals and the largest double included. -/
theorem rne_roundtrip_of_close (x y : ℚ) (hx : IsF64 x) (hc : Close x y) : F64.rne y = some x :=
  F64.rne_eq_of_close x y hx hc

/-- `rne` is the identity on binary64 values -/
theorem rne_id_on_f64 (x : ℚ) (hx : IsF64 x) : F64.rne x = some x := F64.rne_id x hx

theorem goodTok_of_tokenOK (tok : Rat → Str) (x : Rat) (h : TokenOK tok x) : GoodTok tok x := by
  obtain ⟨hx, hg, y, hy, hc⟩ := h
  exact ⟨hg, y, hy, rne_roundtrip_of_close x y hx ((close_sound x y).mp hc)⟩

/-- TUM write → read: same number and order of poses, every stamp / coordinate / quaternion
component the identical binary64 value — for every non-empty trajectory of binary64 values and
every number → token function passing the per-token check that each run performs on every token
evo writes (literal of the grammar, within 2⁻⁵⁵ of its double). -/
theorem tum_roundtrip (tok : Rat → Str) (p0 : StampedPose) (ps : List StampedPose)
    (h : ∀ p ∈ p0 :: ps, ∀ x ∈ tumRow p, TokenOK tok x) :
    readTum (layoutTum tok (p0 :: ps)) = .ok (p0 :: ps) :=
  Evo.C07.layout_then_read tok p0 ps fun p hp x hx => goodTok_of_tokenOK tok x (h p hp x hx)

/-- KITTI write → read: every matrix entry identical, rows in order. -/
theorem kitti_roundtrip (tok : Rat → Str) (p0 : Mat34) (ps : List Mat34)
    (h : ∀ p ∈ p0 :: ps, ∀ x ∈ kittiRow p, TokenOK tok x) :
    readKitti (layoutKitti tok (p0 :: ps)) = .ok (p0 :: ps) :=
  Evo.C07.layout_then_read_kitti tok p0 ps fun p hp x hx => goodTok_of_tokenOK tok x (h p hp x hx)

/-- `json.loads(json.dumps(s)) = s` for every string of Unicode scalar values (info strings and
dictionary keys of result archives): control characters, quotes, backslashes, BMP and astral
characters (surrogate pairs). -/
theorem json_string_roundtrip (s : List Char) : Json.unescape (Json.escape s) = some s := by
  induction s with
  | nil => rfl
  | cons c r ih => rw [Json.escape, Json.unescape_escChar, ih]; rfl

/-- a number token of `stats.json` (or of any text file) that is a literal within 2⁻⁵⁵ of the
binary64 value `x` — whatever its spelling (`repr` prints the shortest such) — is read back as `x` -/
theorem json_number_roundtrip (tok : Str) (x y : ℚ) (hx : IsF64 x) (hp : parseDec tok = some y)
    (hc : Text.close x y = true) : (parseDec tok).bind F64.rne = some x := by
  rw [hp]; exact rne_roundtrip_of_close x y hx ((close_sound x y).mp hc)

/-- **ROS1 bag stamps, every stamp, literal clause.**  For every binary64 stamp `0 ≤ x < 2³¹`:
`write_bag_trajectory` (evo, after the repair of F14) stores `sec = int(stamp // 1)` and
`nanosec = int(round((stamp − sec)·1e9))` (`stamp − sec` is exact in binary64: `F64.isF64_fract`;
the product is rounded; `round` is half-even) with the carry `10⁹ → (sec + 1, 0)`, so that
`0 ≤ nanosec < 10⁹` and the header represents `x` to within 0.5 ns + 2⁻⁵² s; rosbags stores and
returns the two unsigned integers unchanged; `read_bag_trajectory` (evo) computes
`x' = rne(sec + rne(nanosec · rne(10⁻⁹)))`.  Then `x'` is a binary64 value with `|x' − x| ≤ 1 ns`. -/
theorem bag_stamp_error (x : ℚ) (hx : IsF64 x) (h0 : 0 ≤ x) (h31 : x < 2 ^ 31) :
    ∃ (sec ns : ℤ) (x' : ℚ), bagSplit x = some (sec, ns) ∧ 0 ≤ ns ∧ ns < 10 ^ 9 ∧
      (sec = ⌊x⌋ ∨ (sec = ⌊x⌋ + 1 ∧ ns = 0)) ∧
      |(sec : ℚ) + (ns : ℚ) / 10 ^ 9 - x| ≤ 1 / (2 * 10 ^ 9) + 2 / 2 ^ 53 ∧
      bagJoin sec ns = some x' ∧ IsF64 x' ∧ |x' - x| ≤ 1 / 10 ^ 9 := by
  obtain ⟨sec, ns, h1, h2, h3, h4, h5⟩ := bagSplit_spec x hx h0
  have hs : 0 ≤ sec := by have := Int.floor_nonneg.mpr h0; omega
  obtain ⟨x', h6, h7, h8⟩ := join_error x hx h0 h31 sec ns hs h2 h3.le h5
  exact ⟨sec, ns, x', h1, h2, h3, h4, h5, h6, h7, h8⟩

/-- Stamps whose binary64 spacing `2^e` exceeds 2 ns (`2^(e−1) > 1 ns + 2⁻⁴⁹`: every stamp
`≥ 2²⁴ s`, UNIX-epoch stamps in particular) come back **identical**. -/
theorem bag_stamp_exact_of_coarse (m e : ℤ) (hm : 2 ^ 52 ≤ m) (hm' : m < 2 ^ 53) (he1 : -1074 ≤ e)
    (he2 : e ≤ 971) (h31 : (m : ℚ) * (2 : ℚ) ^ e < 2 ^ 31)
    (hgap : 1 / 10 ^ 9 + 1 / 2 ^ 49 < (2 : ℚ) ^ (e - 1)) :
    ∃ sec ns : ℤ, bagSplit ((m : ℚ) * (2 : ℚ) ^ e) = some (sec, ns) ∧
      bagJoin sec ns = some ((m : ℚ) * (2 : ℚ) ^ e) := by
  have hm0 : (0 : ℚ) ≤ m := by exact_mod_cast (by omega : (0 : ℤ) ≤ m)
  have hx : IsF64 ((m : ℚ) * (2 : ℚ) ^ e) :=
    ⟨m, e, by rw [abs_of_nonneg (by omega)]; exact hm', he1, he2, rfl⟩
  obtain ⟨sec, ns, x', h1, -, -, -, -, h2, h3, h4⟩ :=
    bag_stamp_error _ hx (mul_nonneg hm0 (two_zpow_pos e).le) h31
  refine ⟨sec, ns, h1, ?_⟩
  rw [h2]
  -- any other binary64 value is at least `2⁻⁵³` of `m·2^e`, half a step, away: further than 1 ns
  by_contra hne
  have hsep := f64_sep hx h3 fun h => hne (by rw [h])
  have : (2 : ℚ) ^ 52 * (2 : ℚ) ^ e ≤ (m : ℚ) * (2 : ℚ) ^ e :=
    mul_le_mul_of_nonneg_right (by exact_mod_cast hm) (two_zpow_pos e).le
  rw [abs_of_nonneg (mul_nonneg hm0 (two_zpow_pos e).le), abs_sub_comm] at hsep
  rw [zpow_sub_one₀ two_ne] at hgap
  linarith

/-- The **pre-repair** code (`nanosec = int((stamp − sec)·1e9)`, truncation: `bagSplitTrunc`) did
not satisfy the clause "timestamps to within one nanosecond" (finding F14): for
`x = 10606899.173131479` (binary64, in `[2²³, 2²⁴)` s, spacing 2⁻²⁹ s ≈ 1.86 ns) truncation
loses 0.52 ns and the reassembled sum rounds to the neighbouring double, 1.86 ns away; the
repaired code returns `x` itself. -/
theorem bag_stamp_1ns_counterexample :
    IsF64 (5694535632571143 / 536870912) ∧
    bagSplitTrunc (5694535632571143 / 536870912) = some (10606899, 173131478) ∧
    bagJoin 10606899 173131478 = some (2847267816285571 / 268435456) ∧
    (1 : ℚ) / 10 ^ 9 < |(2847267816285571 / 268435456 : ℚ) - 5694535632571143 / 536870912| ∧
    bagSplit (5694535632571143 / 536870912) = some (10606899, 173131479) ∧
    bagJoin 10606899 173131479 = some (5694535632571143 / 536870912) := by
  refine ⟨⟨5694535632571143, -29, by norm_num, by norm_num, by norm_num, by norm_num⟩,
    by decide +kernel, by decide +kernel, by norm_num, by decide +kernel, by decide +kernel⟩

/-- **DataFrame.** With the column table `trajectory_to_df` uses and the column names
`df_to_trajectory` selects (both regenerated from pandas_bridge.py on every run),
`df_to_trajectory(trajectory_to_df(t)) = t` for every trajectory and every path: the column ↔ slot
map is a bijection, the index carries the timestamps, a path keeps its integer index. -/
theorem df_roundtrip (t : Cont.Traj) :
    Cont.dfToTrajWith Evo.Gen.dfReaderQuat Evo.Gen.dfReaderPos
      (Cont.trajToDfWith Evo.Gen.dfWriterSlots t) = some t := by
  have h1 : Evo.Gen.dfWriterSlots = Cont.stdSlots := by decide
  have h2 : Evo.Gen.dfReaderQuat = ["qw", "qx", "qy", "qz"] := by decide
  have h3 : Evo.Gen.dfReaderPos = ["x", "y", "z"] := by decide
  rw [h1, h2, h3]; exact Cont.df_roundtrip_std t

/-- **Result archive, member layout.**  `load_res_file(save_res_file(r))` returns the info, the
statistics, every array under its own name in the original order, and — with
`load_trajectories` — every trajectory under its own name with its own content (TUM members
first, then KITTI members, each group in the original order; the same finite map), without
`load_trajectories` none; for all array / trajectory names that are non-empty and contain no `/`
(`Path(...).stem` would cut those) and any member serialisation `ser` with inverse `de`
(`tum_roundtrip`, `kitti_roundtrip`). -/
theorem res_archive_roundtrip {I S A T : Type} (ser : Cont.Kind → T → Str) (de : Cont.Kind → Str → Option T)
    (hde : ∀ k t, de k (ser k t) = some t) (r : Cont.Res I S A T)
    (hA : ∀ e ∈ r.arrays, Cont.ValidName e.1) (hAn : (r.arrays.map (·.1)).Nodup)
    (hT : ∀ e ∈ r.trajs, Cont.ValidName e.1) (hTn : (r.trajs.map (·.1)).Nodup) :
    Cont.loadRes de true (Cont.saveRes ser r) = some ⟨r.info, r.stats, r.arrays,
      (r.trajs.filter fun e => e.2.1 = .tum) ++ (r.trajs.filter fun e => e.2.1 = .kitti)⟩ ∧
    Cont.loadRes de false (Cont.saveRes ser r) = some ⟨r.info, r.stats, r.arrays, []⟩ ∧
    (∀ e, e ∈ (r.trajs.filter fun e => e.2.1 = .tum) ++ (r.trajs.filter fun e => e.2.1 = .kitti) ↔ e ∈ r.trajs) := by
  obtain ⟨h1, h2⟩ := Cont.res_roundtrip ser r de hde hA hAn hT hTn
  exact ⟨h1, h2, fun e => (Cont.trajs_by_kind_perm r.trajs).mem_iff⟩

/-- archive member names are pairwise different (so `ZipFile.read(name)` is unambiguous) -/
theorem res_member_names_distinct {I S A T : Type} (ser : Cont.Kind → T → Str) (r : Cont.Res I S A T)
    (hAn : (r.arrays.map (·.1)).Nodup) (hTn : (r.trajs.map (·.1)).Nodup) :
    ((Cont.saveRes (I := I) (S := S) ser r).map (·.1)).Nodup := Cont.saveRes_names_nodup ser r hAn hTn

/-! ### non-vacuity -/
example : IsF64 (3602879701896397 / 36028797018963968) :=
  ⟨3602879701896397, -55, by norm_num, by norm_num, by norm_num, by norm_num⟩
/-- the token `%.18e` prints for the double 0.1 is inside the grammar and close -/
example : inGrammar "1.000000000000000056e-01".toList = true ∧
    Text.close (3602879701896397 / 36028797018963968) (1000000000000000056 / 10000000000000000000) = true ∧
    parseDec "1.000000000000000056e-01".toList = some (1000000000000000056 / 10000000000000000000) ∧
    F64.rne (1000000000000000056 / 10000000000000000000) = some (3602879701896397 / 36028797018963968) := by
  -- a string literal is `String.ofList` of its characters: rewriting `"…".toList` to that list first
  -- spares the kernel decoding the UTF-8 bytes of the literal character by character
  rw [String.toList_ofList]
  decide +kernel
/-- an 8-digit token is not -/
example : Text.close (3602879701896397 / 36028797018963968) (1 / 10) = false := by decide +kernel
example : Json.escape "a\"\\\n\x01é😀".toList = "a\\\"\\\\\\n\\u0001\\u00e9\\ud83d\\ude00".toList := by
  rw [String.toList_ofList, String.toList_ofList]
  decide +kernel
example : losslessFmt "%.18e" = true ∧ losslessFmt "%.9f" = false ∧ losslessFmt "%.8e" = false ∧
    losslessFmt "%.16e" = false ∧ losslessFmt "<dynamic>" = false := by decide +kernel
example : bagSplit 1500000000 = some (1500000000, 0) ∧ bagJoin 1500000000 0 = some 1500000000 := by decide +kernel
/-- the carry: 7.9999999996 → (8, 0) → 8.0, 0.4 ns away -/
example : bagSplit (1125899906786329 / 140737488355328) = some (8, 0) ∧ bagJoin 8 0 = some 8 := by decide +kernel
/-- a long TUM member, a shorter TUM member, a KITTI member; unicode names; names ending in another suffix -/
example : (Cont.loadRes (I := Unit) (S := Unit) (A := Nat) (T := Str) (fun _ s => some s) true
      (Cont.saveRes (fun _ t => t) ⟨(), (), [("err".toList, 1), ("x.tum".toList, 2)],
        [("long é".toList, .tum, "1 2\n3 4\n".toList), ("p.npy".toList, .kitti, "9\n".toList),
         ("位置".toList, .tum, "5\n".toList)]⟩)).map
      (fun r => (r.arrays.map (fun e => String.ofList e.1), r.trajs.map (fun e => (String.ofList e.1, String.ofList e.2.2))))
    = some (["err", "x.tum"], [("long é", "1 2\n3 4\n"), ("位置", "5\n"), ("p.npy", "9\n")]) := by
  decide +kernel
/-- a name with `/` is outside the domain: `Path(...).stem` cuts it -/
example : Cont.stem "dir/x.tum".toList = "x".toList ∧ Cont.stem ".tum".toList = ".tum".toList := by decide +kernel
example : Cont.dfToTrajWith Evo.Gen.dfReaderQuat Evo.Gen.dfReaderPos (Cont.trajToDfWith Evo.Gen.dfWriterSlots
    (.timed [10, 11] [⟨1, 2, 3, 4, 5, 6, 7⟩, ⟨8, 9, 10, 11, 12, 13, 14⟩]))
    = some (.timed [10, 11] [⟨1, 2, 3, 4, 5, 6, 7⟩, ⟨8, 9, 10, 11, 12, 13, 14⟩]) := by decide +kernel
/-- bag stamps: an epoch stamp with a nanosecond fraction comes back identical -/
example : bagSplit (6291456000517815 / 4194304) = some (1500000000, 123456717) ∧
    bagJoin 1500000000 123456717 = some (6291456000517815 / 4194304) := by decide +kernel

end Evo.C06
