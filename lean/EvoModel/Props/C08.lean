/-
C08 — trajectory operations have their documented effect and keep all views consistent.

Property theorems about `Evo.Traj` (`Model/Traj.lean`): the *cache machine* (the object as
`trajectory.py` implements it: three lazily filled caches, stamps, the projected flag) refines the
*abstract trajectory* (a list of poses with optional stamps) over every operation history, with
reads interleaved anywhere; every operation has its documented effect on the abstract trajectory;
every operation maps proper rigid poses to proper rigid poses, so `check()` passes.
-/
import EvoModel.Lemmas.TrajDerived
namespace Evo.C08
open Evo Evo.Traj

/-- every present cache is the view of the abstract trajectory, so any two present caches and the
stamps have the same number of entries -/
theorem inv_same_count {s : St} {a : ATraj} (h : Inv s a) :
    (∀ l, s.pos? = some l → l.length = a.items.length) ∧
    (∀ l, s.quat? = some l → l.length = a.items.length) ∧
    (∀ l, s.se3? = some l → l.length = a.items.length) ∧
    (∀ l, s.stamps = some l → l.length = a.items.length) ∧
    s.numPoses = a.items.length := by
  refine ⟨?_, ?_, ?_, ?_, h.numPoses⟩
  · intro l hl; rw [h.pos l hl]; simp
  · intro l hl; rw [h.quat l hl]; simp
  · intro l hl; rw [h.se3 l hl]; simp
  · intro l hl
    have := congrArg List.length (h.stamps l hl)
    simpa [stampsOf] using this.symm

/-- `PosePath3D(poses_se3=…)` / `PoseTrajectory3D(poses_se3=…, timestamps=…)` -/
theorem inv_init_from_se3 (ps : List P) (st : Option (List Rat))
    (hl : ∀ l, st = some l → l.length = ps.length) :
    Inv (initSe3 ps st) (ATraj.init ps st) := by
  obtain ⟨hp, hs⟩ := mkItems_views ps st hl
  exact ⟨nofun, nofun, fun l h => Option.some.inj h ▸ hp.symm, Or.inl rfl, rfl, hs, rfl⟩

/-- `PosePath3D(positions_xyz=…, orientations_quat_wxyz=…)`: the abstract poses are
`se3(R(qᵢ), xyzᵢ)` -/
theorem inv_init_from_pos_quat (xyz : List (V3 Rat)) (rots : List (M3 Rat)) (st : Option (List Rat))
    (hq : rots.length = xyz.length) (hl : ∀ l, st = some l → l.length = xyz.length) :
    Inv (initPosQuat xyz rots st) (ATraj.init (List.zipWith se3Of rots xyz) st) := by
  obtain ⟨hp, hs⟩ := mkItems_views (List.zipWith se3Of rots xyz) st (fun l h => by simp [hq, hl l h])
  obtain ⟨ht, hr⟩ := zipWith_se3Of_views hq
  exact ⟨fun l h => Option.some.inj h ▸ (hp ▸ ht).symm, fun l h => Option.some.inj h ▸ (hp ▸ hr).symm, nofun,
    Or.inr ⟨rfl, rfl⟩, rfl, hs, rfl⟩

/-- **one step**: whatever caches are filled, every operation (mutating, reading, checking) takes
related states to related states and shows the same output as the abstract operation -/
theorem step_preserves_inv {s : St} {a : ATraj} (h : Inv s a) (op : Op) :
    Inv (step s op).1 (specStep a op).1 ∧ (step s op).2 = (specStep a op).2 := by
  cases op with
  | transform m T norm => exact ⟨h.transform m T norm, rfl⟩
  | scale c => exact ⟨h.scale c, rfl⟩
  | reduce ids => exact ⟨h.reduce ids, rfl⟩
  | reduceInt ids =>
      simp only [step, specStep, h.numPoses]
      cases normIds a.items.length ids with
      | none => exact ⟨h, rfl⟩
      | some l => exact ⟨h.reduce l, rfl⟩
  | downsample n ids =>
      simp only [step, specStep, h.numPoses]
      split
      · exact ⟨h, rfl⟩
      · split
        · exact ⟨h, rfl⟩
        · exact ⟨h.reduce ids, rfl⟩
  | motionFilter ids => exact ⟨h.forceSe3.reduce ids, rfl⟩
  | crop ids =>
      simp only [step, specStep, ← h.timed]
      split
      · exact ⟨h.reduce ids, rfl⟩
      · exact ⟨h, rfl⟩
  | align am r t c norm => exact ⟨h.align am r t c norm, rfl⟩
  | alignOrigin ref norm =>
      simp only [step, specStep, h.getSe3]
      cases hp : poses a.items with
      | nil => exact ⟨h, rfl⟩
      | cons p0 r => exact ⟨h.forceSe3.transform .left _ norm, rfl⟩
  | project nd rots =>
      simp only [step, specStep, h.proj]
      split
      · exact ⟨h, rfl⟩
      · exact ⟨h.project nd rots, rfl⟩
  | copy => exact ⟨h, rfl⟩
  | read v => exact h.view v
  | check => exact h.check

/-- **any history**: induction over arbitrary operation lists, reads interleaved anywhere -/
theorem reachable_inv {s : St} {a : ATraj} (h : Inv s a) (ops : List Op) :
    Inv (run s ops).1 (specRun a ops).1 ∧ (run s ops).2 = (specRun a ops).2 := by
  induction ops generalizing s a with
  | nil => exact ⟨h, rfl⟩
  | cons op r ih =>
      obtain ⟨h1, e1⟩ := step_preserves_inv h op
      obtain ⟨h2, e2⟩ := ih h1
      simp only [run, specRun]
      exact ⟨h2, by rw [e1, e2]⟩

/-- **reads refine the spec**: whatever was cached or read before, a read of any view after any
history returns the view of the abstract trajectory `spec(history)` -/
theorem read_refines_spec {s : St} {a : ATraj} (h : Inv s a) (ops : List Op) (v : View) :
    (step (run s ops).1 (.read v)).2 = (specRun a ops).1.view v :=
  (step_preserves_inv (reachable_inv h ops).1 (.read v)).2

/-- positions, rotations (quaternions) and matrices read after any history describe the same poses
and have the same count; timestamps too when present -/
theorem views_describe_same_poses {s : St} {a : ATraj} (h : Inv s a) (ops : List Op) :
    let s' := (run s ops).1
    let a' := (specRun a ops).1
    (s'.view .se3).2 = .poses (poses a'.items) ∧
    (s'.view .pos).2 = .vecs ((poses a'.items).map (·.t)) ∧
    (s'.view .quat).2 = .rots ((poses a'.items).map (·.rot)) ∧
    (s'.view .num).2 = .num (poses a'.items).length ∧
    (∀ l, (s'.view .stamps).2 = .stamps (some l) → l.length = (poses a'.items).length) := by
  intro s' a'
  have hi : Inv s' a' := (reachable_inv h ops).1
  refine ⟨(hi.view .se3).2, (hi.view .pos).2, (hi.view .quat).2, (hi.view .num).2.trans (by simp [ATraj.view]), ?_⟩
  intro l hl
  simp only [St.view, Out.stamps.injEq] at hl
  simpa using (inv_same_count hi).2.2.2.1 l hl

/-- path length, accumulated distances and speeds are functions of the step lengths between
consecutive positions: the machine's `distances` read equals them computed on the abstract poses -/
theorem derived_quantities {s : St} {a : ATraj} (h : Inv s a) (ops : List Op) :
    (step (run s ops).1 (.read .dist)).2
      = .rats (segSq ((poses (specRun a ops).1.items).map (·.t))) :=
  read_refines_spec h ops .dist

/-! ### effect of each operation, stated on the abstract trajectory (`read_refines_spec` carries it to the object) -/

theorem spec_transform_poses (a : ATraj) (m : Mode) (T : P) (norm : Option Rat) :
    poses (specStep a (.transform m T norm)).1.items = transformFull m T norm (poses a.items) ∧
    stampsOf (specStep a (.transform m T norm)).1.items = stampsOf a.items :=
  ⟨poses_onPoses (transformFull_length m T norm) _, stampsOf_onPoses (transformFull_length m T norm) _⟩

/-- left multiplication by an SE(3) matrix maps every pose `P` to `T·P`; stamps untouched -/
theorem transformL_effect (a : ATraj) (T : P) :
    poses (specStep a (.transform .left T none)).1.items = (poses a.items).map (fun p => T.mul p) ∧
    stampsOf (specStep a (.transform .left T none)).1.items = stampsOf a.items :=
  spec_transform_poses a .left T none

/-- right multiplication maps every pose `P` to `P·T` -/
theorem transformR_effect (a : ATraj) (T : P) :
    poses (specStep a (.transform .right T none)).1.items = (poses a.items).map (fun p => p.mul T) ∧
    stampsOf (specStep a (.transform .right T none)).1.items = stampsOf a.items :=
  spec_transform_poses a .right T none

/-- propagation keeps the count and the first pose and replaces every relative motion
`Dᵢ = Pᵢ⁻¹·Pᵢ₊₁` by `Dᵢ·T` (rigid poses, rigid `T`) -/
theorem transformProp_effect (a : ATraj) (T : P) (hT : Proper T) (hp : ∀ p ∈ poses a.items, Proper p) :
    let new := poses (specStep a (.transform .prop T none)).1.items
    new.length = (poses a.items).length ∧
    new.head? = (poses a.items).head? ∧
    relsOf new = (relsOf (poses a.items)).map (fun d => d.mul T) := by
  intro new
  have e : new = transformFull .prop T none (poses a.items) := (spec_transform_poses a .prop T none).1
  rw [e]
  cases hps : poses a.items with
  | nil => exact ⟨rfl, rfl, rfl⟩
  | cons p0 r =>
      rw [hps] at hp
      obtain ⟨tl, htl⟩ := propagate_head p0 ((relsOf (p0 :: r)).map (fun d => d.mul T))
      exact ⟨transformFull_length _ _ _ _, by simp [transformFull, transformPoses, htl],
        relsOf_propagate (hp p0 List.mem_cons_self) (rels_mul_proper hp hT)⟩

theorem spec_scale_poses (a : ATraj) (c : Rat) :
    poses (specStep a (.scale c)).1.items = (poses a.items).map (scalePose c) :=
  poses_onPoses (fun _ => List.length_map _) _

/-- scaling multiplies the positions only -/
theorem scale_effect (a : ATraj) (c : Rat) :
    let new := poses (specStep a (.scale c)).1.items
    new.map (·.t) = (poses a.items).map (fun p => V3.smul c p.t) ∧
    new.map (·.rot) = (poses a.items).map (·.rot) ∧
    stampsOf (specStep a (.scale c)).1.items = stampsOf a.items := by
  intro new
  have e : new = (poses a.items).map (scalePose c) := spec_scale_poses a c
  rw [e, (scale_views c _).1, (scale_views c _).2, List.map_map]
  exact ⟨rfl, rfl, stampsOf_onPoses (fun _ => List.length_map _) _⟩

theorem unscale_sim3_mul {s : Rat} (hs : s ≠ 0) (R : M3 Rat) (t : V3 Rat) (p : P) :
    unscale s ((Pose.sim3 R t s).mul p) = ⟨R.mul p.rot, V3.add (V3.smul s (R.mulVec p.t)) t⟩ := by
  simp only [unscale, Pose.mul, Pose.sim3]
  rw [M3.smul_mul, unscale_smul s hs, M3.smul_mulVec]

/-- a similarity `T = [sR t; 0 1]` applied from the left maps positions by `s·R·p + t` and
orientations by `R` (the Sim(3) normalisation divides the rotation block by the scale `s`, which
the model receives as the parameter `norm`) -/
theorem similarity_effect (a : ATraj) (R : M3 Rat) (t : V3 Rat) (s : Rat) (hs : s ≠ 0) :
    poses (specStep a (.transform .left (Pose.sim3 R t s) (some s))).1.items
      = (poses a.items).map (fun p => ⟨R.mul p.rot, V3.add (V3.smul s (R.mulVec p.t)) t⟩) := by
  rw [(spec_transform_poses a .left _ _).1]
  simp only [transformFull, normalise, transformPoses, List.map_map]
  exact List.map_congr_left fun p _ => unscale_sim3_mul hs R t p

/-- `align()` with the Umeyama triple `(R, t, c)` and scale correction maps positions by
`c·R·p + t` and orientations by `R` -/
theorem align_effect (a : ATraj) (R : M3 Rat) (t : V3 Rat) (c : Rat) :
    poses (specStep a (.align .withScale R t c none)).1.items
      = (poses a.items).map (fun p => ⟨R.mul p.rot, V3.add (V3.smul c (R.mulVec p.t)) t⟩) := by
  simp only [specStep, alignItems]
  rw [poses_onPoses (transformFull_length _ _ _), poses_onPoses (fun _ => List.length_map _)]
  simp only [transformFull, transformPoses, List.map_map]
  apply List.map_congr_left
  intro p _
  simp only [Function.comp, scalePose, Pose.mul, se3Of, M3.mulVec_smul]

/-- index reduction (also the effect of down-sampling, motion filtering and time cropping once
the ids are chosen): the `k`-th remaining item is item `ids[k]` of the original, pose and stamp -/
theorem reduce_effect (a : ATraj) (ids : List Nat) (hv : ∀ i ∈ ids, i < a.items.length) :
    let new := (specStep a (.reduce ids)).1.items
    new.length = ids.length ∧
    ∀ k (hk : k < ids.length), new[k]? = a.items[ids[k]]? :=
  ⟨reduceIds_length a.items ids hv, fun k hk => reduceIds_getElem a.items ids hv k hk⟩

/-- signed indices: `reduce_to_ids` with Python indices is index reduction with the normalised indices
(`−1` ↦ `n−1`, …, `−n` ↦ `0`), for poses *and* stamps alike; an index outside `[−n, n)` refuses and changes nothing -/
theorem reduceInt_effect (a : ATraj) (ids : List Int) :
    (∀ l, normIds a.items.length ids = some l →
      specStep a (.reduceInt ids) = specStep a (.reduce l) ∧ l.length = ids.length ∧ ∀ j ∈ l, j < a.items.length) ∧
    (normIds a.items.length ids = none → specStep a (.reduceInt ids) = (a, .err)) :=
  ⟨fun l hl => ⟨by simp [specStep, hl], normIds_spec hl⟩, fun hn => by simp [specStep, hn]⟩

/-- projection happens at most once: a second call is refused and changes nothing; the first one
zeroes the coordinate normal to the plane and installs the planar rotations -/
theorem project_effect (a : ATraj) (nd : Nat) (rots : List (M3 Rat)) :
    (a.projected = true → specStep a (.project nd rots) = (a, .err)) ∧
    (a.projected = false →
      (specStep a (.project nd rots)).1.projected = true ∧
      poses (specStep a (.project nd rots)).1.items = projPoses nd rots (poses a.items)) := by
  constructor
  · intro h; simp [specStep, h]
  · intro h
    simp only [specStep, h]
    exact ⟨rfl, poses_onPoses (projPoses_length nd rots) _⟩

/-- copying, reading and checking leave the abstract trajectory as it is -/
theorem copy_read_check_effect (a : ATraj) (v : View) :
    (specStep a .copy).1 = a ∧ (specStep a (.read v)).1 = a ∧ (specStep a .check).1 = a :=
  ⟨rfl, rfl, rfl⟩

/-- admissible operation parameters: SE(3) matrices are proper rigid; a Sim(3) matrix is
`sim3(R, t, s)` with a proper rotation and the non-zero scale handed to the normalisation;
alignment rotations and projected rotations are proper; `align` / `align_origin` with a normalisation are
excluded (the matrix they hand to `transform()` is SE(3)) -/
def GoodOp : Op → Prop
  | .transform _ T none => Proper T
  | .transform _ T (some s) => s ≠ 0 ∧ ∃ R t, IsRot R ∧ T = Pose.sim3 R t s
  | .align _ r _ _ none => IsRot r
  | .align _ _ _ _ (some _) => False
  | .alignOrigin ref none => Proper ref
  | .alignOrigin _ (some _) => False
  | .project _ rots => ∀ q ∈ rots, IsRot q
  | _ => True

theorem transformFull_proper {m : Mode} {T : P} {norm : Option Rat} {ps : List P}
    (hg : GoodOp (.transform m T norm)) (hp : ∀ p ∈ ps, Proper p) :
    ∀ p ∈ transformFull m T norm ps, Proper p := by
  cases norm with
  | none =>
      have hT : Proper T := hg
      cases m with
      | left => exact List.forall_mem_map.mpr fun q hq => hT.mul (hp q hq)
      | right => exact List.forall_mem_map.mpr fun q hq => (hp q hq).mul hT
      | prop =>
          cases ps with
          | nil => intro p h; cases h
          | cons p0 r => exact propagate_proper (hp p0 List.mem_cons_self) (rels_mul_proper hp hT)
  | some s =>
      obtain ⟨hs, R, t, hR, rfl⟩ := hg
      cases m with
      | left =>
          exact List.forall_mem_map.mpr <| List.forall_mem_map.mpr fun q hq =>
            unscale_proper hs (IsRot.mul hR (hp q hq)) (M3.smul_mul s R q.rot)
      | right =>
          exact List.forall_mem_map.mpr <| List.forall_mem_map.mpr fun q hq =>
            unscale_proper hs (IsRot.mul (hp q hq) hR) (M3.mul_smul s q.rot R)
      | prop =>
          cases ps with
          | nil => intro p h; cases h
          | cons p0 r =>
              refine unscalePow_propagate_proper s hs 0 p0 p0.rot (hp p0 List.mem_cons_self)
                (by rw [pow_zero, M3.one_smul']) (List.forall_mem_map.mpr fun d hd => ?_)
              exact ⟨d.rot.mul R, IsRot.mul (relsOf_mem_proper hp d hd) hR, M3.mul_smul s _ _⟩

theorem transform_proper {m : Mode} {T : P} {norm : Option Rat} {l : List Item}
    (hg : GoodOp (.transform m T norm)) (hp : ∀ p ∈ poses l, Proper p) :
    ∀ p ∈ poses (onPoses (transformFull m T norm) l), Proper p :=
  onPoses_proper (transformFull_length m T norm) (transformFull_proper hg hp)

/-- **rigid poses stay rigid**: every operation with admissible parameters maps a trajectory of
proper rigid poses to one of proper rigid poses — including left/right/propagating
multiplication by a Sim(3) matrix (fix 91a1eaa), given its scale -/
theorem rigid_preserved (a : ATraj) (op : Op) (hg : GoodOp op) (hp : ∀ p ∈ poses a.items, Proper p) :
    ∀ p ∈ poses (specStep a op).1.items, Proper p := by
  cases op with
  | transform m T norm => exact transform_proper hg hp
  | scale c => exact scale_proper hp c
  | reduce ids => exact reduceIds_proper hp ids
  | reduceInt ids =>
      simp only [specStep]
      split
      · exact reduceIds_proper hp _
      · exact hp
  | downsample n ids =>
      simp only [specStep]
      split
      · exact hp
      · split
        · exact hp
        · exact reduceIds_proper hp ids
  | motionFilter ids => exact reduceIds_proper hp ids
  | crop ids =>
      simp only [specStep]
      split
      · exact reduceIds_proper hp ids
      · exact hp
  | align am r t c norm =>
      cases norm with
      | some _ => exact hg.elim
      | none =>
          have hT : GoodOp (.transform .left (se3Of r t) none) := hg
          cases am with
          | onlyScale => exact scale_proper hp c
          | rigid => exact transform_proper hT hp
          | withScale => exact transform_proper hT (scale_proper hp c)
  | alignOrigin ref norm =>
      cases norm with
      | some _ => exact hg.elim
      | none =>
          simp only [specStep]
          split
          · exact hp
          · next p0 _ hps =>
            have hT : GoodOp (.transform .left (originTransform ref p0) none) :=
              Proper.mul hg (Proper.inv (hp p0 (by simp [hps])))
            exact transform_proper hT hp
  | project nd rots =>
      simp only [specStep]
      split
      · exact hp
      · exact onPoses_proper (projPoses_length nd rots) (projPoses_proper hg hp)
  | copy => exact hp
  | read v => exact hp
  | check => exact hp

theorem rigid_preserved_run (a : ATraj) (ops : List Op) (hg : ∀ op ∈ ops, GoodOp op)
    (hp : ∀ p ∈ poses a.items, Proper p) : ∀ p ∈ poses (specRun a ops).1.items, Proper p := by
  induction ops generalizing a with
  | nil => exact hp
  | cons op r ih =>
      simp only [specRun]
      exact ih _ (fun o ho => hg o (List.mem_cons_of_mem _ ho)) (rigid_preserved a op (hg op (by simp)) hp)

/-- **evo's own validity check passes**: after any history of admissible operations on an object
built from proper rigid poses, `check()` (whatever is cached at that moment) reports equal
lengths and valid SE(3) matrices with residual zero; the time-stamp verdict is left open here
(`check_valid_after_history`) -/
theorem check_passes {s : St} {a : ATraj} (h : Inv s a) (ops : List Op) (hg : ∀ op ∈ ops, GoodOp op)
    (hp : ∀ p ∈ poses a.items, Proper p) :
    ∃ b, (step (run s ops).1 .check).2 = .chk true true 0 b := by
  rw [(step_preserves_inv (reachable_inv h ops).1 .check).2]
  obtain ⟨b, hb, _⟩ := checkOut_proper (rigid_preserved_run a ops hg hp) (specRun a ops).1.stampsView
  exact ⟨b, hb⟩

/-- the index lists of the selecting operations are strictly increasing (what `linspace`,
`filter_by_motion`, `np.where` produce).  For `.reduceInt` the condition is over every length `n`, not the
current one only, so a list that mixes signs does not meet it (`[0, -1]` normalises to `[0, 0]` at `n = 1`). -/
def IdsAscending : Op → Prop
  | .reduce ids => ids.Pairwise (· < ·)
  | .reduceInt ids => ∀ n l, normIds n ids = some l → l.Pairwise (· < ·)
  | .downsample _ ids => ids.Pairwise (· < ·)
  | .motionFilter ids => ids.Pairwise (· < ·)
  | .crop ids => ids.Pairwise (· < ·)
  | _ => True

def StampsOk (st : Option (List Rat)) : Prop := ∀ l, st = some l → l.Pairwise (· < ·)

theorem reduce_stampsOk {s : St} (ids : List Nat) (hi : ids.Pairwise (· < ·)) (h : StampsOk s.stamps) :
    StampsOk (s.reduce ids).stamps := by
  intro l hl
  simp only [St.reduce, Option.map_eq_some_iff] at hl
  obtain ⟨l0, h0, rfl⟩ := hl
  exact (h l0 h0).sublist (reduceIds_sublist l0 ids hi)

/-- no operation touches the stamps except index reduction, which keeps them strictly ascending -/
theorem stamps_ascending_preserved (s : St) (op : Op) (hi : IdsAscending op) (h : StampsOk s.stamps) :
    StampsOk (step s op).1.stamps := by
  cases op with
  | transform m T norm => exact h
  | scale c => exact h
  | reduce ids => exact reduce_stampsOk ids hi h
  | reduceInt ids =>
      simp only [step]
      cases hn : normIds s.numPoses ids with
      | none => exact h
      | some l => exact reduce_stampsOk l (hi _ _ hn) h
  | downsample n ids =>
      simp only [step]
      split
      · exact h
      · split
        · exact h
        · exact reduce_stampsOk ids hi h
  | motionFilter ids => exact reduce_stampsOk (s := s.forceSe3) ids hi h
  | crop ids =>
      simp only [step]
      split
      · exact reduce_stampsOk ids hi h
      · exact h
  | align am r t c norm => cases am <;> exact h
  | alignOrigin ref norm =>
      simp only [step]
      split <;> exact h
  | project nd rots =>
      simp only [step]
      split <;> exact h
  | copy => exact h
  | read v => cases v <;> exact h
  | check =>
      simp only [step, St.check]
      split <;> exact h

theorem stamps_ascending_run (s : St) (ops : List Op) (hi : ∀ op ∈ ops, IdsAscending op) (h : StampsOk s.stamps) :
    StampsOk (run s ops).1.stamps := by
  induction ops generalizing s with
  | nil => exact h
  | cons op r ih =>
      simp only [run]
      exact ih _ (fun o ho => hi o (List.mem_cons_of_mem _ ho)) (stamps_ascending_preserved s op (hi op (by simp)) h)

/-- **the complete verdict of `check()`**: after any history of admissible operations with
increasing index lists on an object built from proper rigid poses and strictly ascending stamps
(or none), `check()` reports: same lengths, valid SE(3), residual 0, stamps ok -/
theorem check_valid_after_history {s : St} {a : ATraj} (h : Inv s a) (ops : List Op)
    (hg : ∀ op ∈ ops, GoodOp op) (hi : ∀ op ∈ ops, IdsAscending op)
    (hp : ∀ p ∈ poses a.items, Proper p) (hs : StampsOk s.stamps) :
    (step (run s ops).1 .check).2 = .chk true true 0 true := by
  have hinv := (reachable_inv h ops).1
  rw [(step_preserves_inv hinv .check).2]
  obtain ⟨b, hb, ht⟩ := checkOut_proper (rigid_preserved_run a ops hg hp) (specRun a ops).1.stampsView
  refine hb.trans ?_
  rw [ht]
  intro l hl
  rw [hinv.stampsView] at hl
  exact ⟨by simpa using (inv_same_count hinv).2.2.2.1 l hl, stamps_ascending_run s ops hi hs l hl⟩

/-- the pre-repair behaviour (finding F7): without the normalisation a Sim(3) argument of scale 2
leaves a pose matrix that is not rigid -/
theorem sim3_transform_not_rigid_without_normalisation :
    ∃ (T p : P), Proper p ∧ ¬ Proper (T.mul p) :=
  ⟨Pose.sim3 M3.one V3.zero 2, Pose.one, ⟨IsOrtho.one, by decide +kernel⟩, by
    intro h
    have := h.2
    revert this
    decide +kernel⟩

/-! ### non-vacuity: concrete instances -/

def rz : M3 Rat := ⟨0, -1, 0, 1, 0, 0, 0, 0, 1⟩
def p1 : P := ⟨rz, ⟨1, 2, 3⟩⟩
def p2 : P := ⟨M3.one, ⟨4, 5, 6⟩⟩
def p3 : P := ⟨rz, ⟨7, 7, 0⟩⟩
def T0 : P := ⟨rz, ⟨1, 0, -1⟩⟩

example : IsRot rz := ⟨by unfold IsOrtho; decide +kernel, by decide +kernel⟩
example : Inv (initSe3 [p1, p2, p3] (some [0, 1, 2])) (ATraj.init [p1, p2, p3] (some [0, 1, 2])) :=
  inv_init_from_se3 _ _ (by intro l h; cases h; rfl)
example : Inv (initPosQuat [⟨1, 2, 3⟩, ⟨4, 5, 6⟩] [rz, M3.one] none)
    (ATraj.init (List.zipWith se3Of [rz, M3.one] [⟨1, 2, 3⟩, ⟨4, 5, 6⟩]) none) :=
  inv_init_from_pos_quat _ _ _ rfl (by intro l h; cases h)

/-- a cache is filled, the object is mutated, then another view is read -/
example :
    (run (initPosQuat [⟨1, 2, 3⟩, ⟨4, 5, 6⟩, ⟨7, 7, 0⟩] [rz, M3.one, rz] (some [0, 1, 2]))
      [.read .pos, .scale 2, .transform .prop T0 none, .reduce [0, 2], .read .se3, .read .stamps]).2
    = [.vecs [⟨1, 2, 3⟩, ⟨4, 5, 6⟩, ⟨7, 7, 0⟩], .unit, .unit, .unit,
       .poses [⟨rz, ⟨2, 4, 6⟩⟩, ⟨⟨0, 1, 0, -1, 0, 0, 0, 0, 1⟩, ⟨4, 16, -2⟩⟩], .stamps (some [0, 2])] := by
  decide +kernel

example : GoodOp (.transform .prop T0 none) := ⟨by unfold IsOrtho; decide +kernel, by decide +kernel⟩
example : GoodOp (.transform .left (Pose.sim3 rz ⟨1, 1, 1⟩ 2) (some 2)) :=
  ⟨by decide, rz, ⟨1, 1, 1⟩, ⟨by unfold IsOrtho; decide +kernel, by decide +kernel⟩, rfl⟩
/-- a Sim(3) matrix of scale 2 from the left: the rotation blocks come out unscaled -/
example : (specStep (ATraj.init [p1, p2] none) (.transform .left (Pose.sim3 rz ⟨1, 1, 1⟩ 2) (some 2))).1.items
    = [(⟨⟨-1, 0, 0, 0, -1, 0, 0, 0, 1⟩, ⟨-3, 3, 7⟩⟩, none), (⟨rz, ⟨-9, 9, 13⟩⟩, none)] := by decide +kernel
example : (step (initSe3 [p1, p2] none) .check).2 = .chk true true 0 true := by decide +kernel
example : StampsOk (initSe3 [p1, p2, p3] (some [0, 1, 2])).stamps := by
  intro l h
  simp only [initSe3, Option.some.injEq] at h
  subst h
  decide +kernel
example : IdsAscending (.reduce [0, 2]) := by simp [IdsAscending]
example : (step (run (initSe3 [p1, p2, p3] (some [0, 1, 2])) [.read .pos, .scale 2, .reduce [0, 2]]).1 .check).2
    = .chk true true 0 true := by decide +kernel
example : normIds 3 [0, -1, -3, 2] = some [0, 2, 0, 2] := by decide
example : normIds 3 [0, -4] = none := by decide
example : (run (initSe3 [p1, p2, p3] (some [0, 1, 2])) [.reduceInt [0, -1], .read .stamps, .read .pos]).2
    = [.unit, .stamps (some [0, 2]), .vecs [⟨1, 2, 3⟩, ⟨7, 7, 0⟩]] := by decide +kernel
/-- second projection refused -/
example : (run (initSe3 [p1, p2] none) [.project 2 [rz, M3.one], .project 2 [rz, M3.one], .read .pos]).2
    = [.unit, .err, .vecs [⟨1, 2, 0⟩, ⟨4, 5, 0⟩]] := by decide +kernel

/-! ### derived quantities under the operations

`path_length`, `distances` and `speeds` are `√` / cumulative sums / quotients of the squared step
lengths `segSq` of the positions (`derived_quantities` ties the machine's read to them), `duration`
is the difference of the last and the first stamp. -/

/-- a left multiplication by a rigid transformation (orthonormal rotation block) changes no step
length: path length, accumulated distances and speeds are unchanged -/
theorem segSq_left_rigid (T : P) (hT : IsRigid T) (ps : List P) :
    segSq ((ps.map (T.mul ·)).map (·.t)) = segSq (ps.map (·.t)) := by
  rw [positions_mul_left]
  exact segSq_map_of_isometry _ (rigid_dist hT T.t) _

example : segSq (([p1, p2, p3].map (T0.mul ·)).map (·.t)) = [27, 49] ∧ segSq ([p1, p2, p3].map (·.t)) = [27, 49] := by
  decide +kernel
example : IsRigid T0 := by unfold IsRigid IsOrtho; decide +kernel

/-- the same on the abstract trajectory -/
theorem transformL_keeps_step_lengths (a : ATraj) (T : P) (hT : IsRigid T) :
    segSq ((poses (specStep a (.transform .left T none)).1.items).map (·.t))
      = segSq ((poses a.items).map (·.t)) := by
  rw [(transformL_effect a T).1]
  exact segSq_left_rigid T hT _

example : segSq ((poses (specStep (ATraj.init [p1, p2, p3] (some [0, 1, 2])) (.transform .left T0 none)).1.items).map (·.t))
    = [27, 49] := by decide +kernel

/-- scaling the positions by `c` multiplies every squared step length by `c²` (path length and
distances by `|c|`) -/
theorem segSq_scale (c : Rat) (ps : List P) :
    segSq ((ps.map (scalePose c)).map (·.t)) = (segSq (ps.map (·.t))).map (c * c * ·) := by
  rw [(scale_views c ps).1]
  exact segSq_map_of_dist _ _ (scale_dist c) _

example : segSq (([p1, p2, p3].map (scalePose 3)).map (·.t)) = [243, 441] := by decide +kernel

/-- the same on the abstract trajectory -/
theorem scale_scales_step_lengths (a : ATraj) (c : Rat) :
    segSq ((poses (specStep a (.scale c)).1.items).map (·.t))
      = (segSq ((poses a.items).map (·.t))).map (c * c * ·) := by
  rw [spec_scale_poses]
  exact segSq_scale c _

example : segSq ((poses (specStep (ATraj.init [p1, p2, p3] none) (.scale (-1 / 2))).1.items).map (·.t))
    = [27 / 4, 49 / 4] := by decide +kernel

/-- a similarity `T = [sR t; 0 1]` (orthonormal `R`) applied from the left, with the Sim(3)
normalisation, multiplies every squared step length by `s²` -/
theorem similarity_scales_step_lengths (a : ATraj) (R : M3 Rat) (hR : IsOrtho R) (t : V3 Rat) (s : Rat) :
    segSq ((poses (specStep a (.transform .left (Pose.sim3 R t s) (some s))).1.items).map (·.t))
      = (segSq ((poses a.items).map (·.t))).map (s * s * ·) := by
  rw [(spec_transform_poses a .left _ _).1, positions_sim3_left]
  exact segSq_map_of_dist _ _ (similarity_dist hR s t) _

example : segSq ((poses (specStep (ATraj.init [p1, p2, p3] none)
      (.transform .left (Pose.sim3 rz ⟨1, 1, 1⟩ 2) (some 2))).1.items).map (·.t)) = [108, 196] := by
  decide +kernel

example : segSq ((([⟨0, 0, 0⟩, ⟨1, 0, 0⟩, ⟨1, 2, 0⟩, ⟨1, 2, 3⟩, ⟨5, 2, 3⟩] : List (V3 Rat)).drop 1).take 3) = [4, 9] ∧
    segSq ([⟨0, 0, 0⟩, ⟨1, 0, 0⟩, ⟨1, 2, 0⟩, ⟨1, 2, 3⟩, ⟨5, 2, 3⟩] : List (V3 Rat)) = [1, 4, 9, 16] := by
  decide +kernel

/-- reducing to the contiguous index range `i, i+1, …, i+k−1` keeps exactly the steps between the
kept poses: the step lengths afterwards are the window `drop i |>.take (k − 1)` of the step lengths
before (so the path length of the kept part is the difference of the accumulated distances) -/
theorem reduce_consecutive_keeps_steps (a : ATraj) (i k : Nat) :
    segSq ((poses (specStep a (.reduce (List.range' i k))).1.items).map (·.t))
      = ((segSq ((poses a.items).map (·.t))).drop i).take (k - 1) := by
  show segSq ((poses (reduceIds a.items (List.range' i k))).map (·.t)) = _
  rw [poses_reduceIds, reduceIds_range', List.map_take, List.map_drop, segSq_take, segSq_drop]

example : segSq ((poses (specStep (ATraj.init [p1, p2, p3, p1] none) (.reduce (List.range' 1 3))).1.items).map (·.t))
    = [49, 70] ∧ segSq ((poses (ATraj.init [p1, p2, p3, p1] none).items).map (·.t)) = [27, 49, 70] := by
  decide +kernel

/-- **counterexample**: right multiplication by a rigid transformation with a non-zero translation is
not an isometry of the positions when the orientations differ (the translation is applied in each
pose's own frame): identity at the origin and a quarter turn about `z` at `(1, 0, 0)`, both moved by
the translation `(2, 0, 0)` in their body frame, are `√5` apart instead of `1` -/
theorem transformR_changes_step_lengths_counterexample :
    ∃ (ps : List P) (T : P), (∀ p ∈ ps, Proper p) ∧ Proper T ∧
      segSq ((ps.map (·.mul T)).map (·.t)) ≠ segSq (ps.map (·.t)) := by
  refine ⟨[⟨M3.one, ⟨0, 0, 0⟩⟩, ⟨rz, ⟨1, 0, 0⟩⟩], ⟨M3.one, ⟨2, 0, 0⟩⟩, ?_, ?_, by decide +kernel⟩
  · intro p hp
    simp only [List.mem_cons, List.not_mem_nil, or_false] at hp
    rcases hp with rfl | rfl
    · exact ⟨IsOrtho.one, by decide +kernel⟩
    · exact ⟨by unfold IsOrtho; decide +kernel, by decide +kernel⟩
  · exact ⟨IsOrtho.one, by decide +kernel⟩

example : segSq ((([⟨M3.one, ⟨0, 0, 0⟩⟩, ⟨rz, ⟨1, 0, 0⟩⟩] : List P).map (fun p => p.mul ⟨M3.one, ⟨2, 0, 0⟩⟩)).map (·.t)) = [5] ∧
    segSq (([⟨M3.one, ⟨0, 0, 0⟩⟩, ⟨rz, ⟨1, 0, 0⟩⟩] : List P).map (·.t)) = [1] := by decide +kernel
/-- with the translation `(1, 0, 0)` the same two poses happen to stay at distance `1` -/
example : segSq ((([⟨M3.one, ⟨0, 0, 0⟩⟩, ⟨rz, ⟨1, 0, 0⟩⟩] : List P).map (fun p => p.mul ⟨M3.one, ⟨1, 0, 0⟩⟩)).map (·.t)) = [1] := by
  decide +kernel

/-- the operations that rewrite the poses in place (transform, scale, align, align_origin, project)
leave the stamp list — hence the duration and the denominators of the speeds — unchanged -/
theorem stamps_unchanged_by_geometric_ops (a : ATraj) (op : Op) (h : op.isGeometric = true) :
    stampsOf (specStep a op).1.items = stampsOf a.items :=
  stampsOf_specStep_of_not_selection a op (Op.not_selection_of_geometric h)

example : (Op.transform .prop T0 none).isGeometric = true ∧ (Op.project 2 [rz]).isGeometric = true ∧
    (Op.reduce [0]).isGeometric = false := by decide
example : stampsOf (specStep (ATraj.init [p1, p2, p3] (some [0, 1, 2])) (.align .withScale rz ⟨1, 1, 1⟩ 2 none)).1.items
    = [some 0, some 1, some 2] := by decide +kernel

/-- more generally: every operation except the selecting ones (`reduce_to_ids`, `downsample`,
`motion_filter`, `reduce_to_time_range`) leaves the stamp list unchanged -/
theorem stamps_unchanged_unless_selection (a : ATraj) (op : Op) (h : op.isSelection = false) :
    stampsOf (specStep a op).1.items = stampsOf a.items :=
  stampsOf_specStep_of_not_selection a op h

example : Op.copy.isSelection = false ∧ (Op.read .dist).isSelection = false ∧ (Op.crop [0]).isSelection = true := by
  decide
/-- a selection does change the stamps -/
example : stampsOf (specStep (ATraj.init [p1, p2, p3] (some [0, 1, 2])) (.reduce [0, 2])).1.items = [some 0, some 2] := by
  decide +kernel

end Evo.C08
