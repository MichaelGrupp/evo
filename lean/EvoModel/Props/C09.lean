/-
C09 — Lie-group helpers satisfy the group laws (evo/core/lie_algebra.py).
Property theorems about `Model/Lin.lean` + `Model/Lie.lean`.  `K` is any field, ordered where needed (ℚ for the
driver, ℝ for the mathematics); the tolerance tests are stated over ℚ (they are rational mirrors).

Angle: evo's rotation angle is `atan2(√s², c)` of the *core* `(c, s²) = M3.angleCore R`
(`c = (tr R − 1)/2 = cos θ`, `s² = ‖vee((R − Rᵀ)/2)‖² = sin² θ`); the metric clauses are proved on
the core and, over ℝ, on `angleR = atan2(√s², c)` itself, including the triangle inequality
(`angle_triangle`, through unit quaternions).
exp/log: scipy's `so3_exp`/`so3_log` are tied by the Rodrigues certificate; the `_partial`
theorems are the polynomial content of exp∘log = id and log∘exp = id (see each docstring).
Over ℝ, `exp_log_real`, `log_exp_real`, `log_exp_real_at_pi` close the gap at rotation angle exactly
π (`logRFull`, `piAxis` of `Lemmas/LieAtPi.lean`): exp and log are mutually inverse over the whole
group.
-/
import EvoModel.Lemmas.QuatAngle
namespace Evo.C09
open Evo Evo.Lie

set_option linter.unusedSectionVars false

section field
variable {K : Type} [Field K]

/-- `vee(hat(v)) = v` -/
theorem vee_hat (v : V3 K) : M3.vee (M3.hat v) = v := by
  ext <;> simp [M3.vee, M3.hat]

/-- `hat(vee(S)) = S` for every skew-symmetric `S` -/
theorem hat_vee (s : M3 K) (hs : s.transpose = M3.smul (-1) s) (h2 : (1 + 1 : K) ≠ 0) :
    M3.hat (M3.vee s) = s := by
  -- a diagonal entry is its own negative, hence zero
  have d : ∀ {x : K}, x = -1 * x → 0 = x := fun hx =>
    (mul_left_cancel₀ h2 (by linear_combination hx)).symm
  have e01 : s.a10 = -1 * s.a01 := congrArg M3.a01 hs
  have e02 : s.a20 = -1 * s.a02 := congrArg M3.a02 hs
  have e12 : s.a21 = -1 * s.a12 := congrArg M3.a12 hs
  ext <;> simp only [M3.hat, M3.vee, neg_neg]
  · exact d (congrArg M3.a00 hs)
  · linear_combination -e01
  · exact d (congrArg M3.a11 hs)
  · linear_combination -e02
  · linear_combination -e12
  · exact d (congrArg M3.a22 hs)

/-- `hat v` is the matrix of the cross product: `hat(v)·u = v × u` -/
theorem hat_is_cross (v u : V3 K) : (M3.hat v).mulVec u = V3.cross v u := by
  ext <;> simp only [M3.hat, M3.mulVec, V3.cross] <;> ring

/-- `se3_inverse(P)·P = I` -/
theorem se3_inv_mul (p : Pose K) (h : IsRigid p) : p.inv.mul p = Pose.one := Pose.inv_mul_self h

/-- `P·se3_inverse(P) = I` -/
theorem se3_mul_inv (p : Pose K) (h : IsRigid p) : p.mul p.inv = Pose.one := Pose.mul_inv_self h

/-- `relative_se3(A, B) = A⁻¹·B`: it is the unique `X` with `A·X = B` -/
theorem rel_eq_inv_mul (a b : Pose K) (h : IsRigid a) :
    a.rel b = a.inv.mul b ∧ a.mul (a.rel b) = b ∧ ∀ x : Pose K, a.mul x = b → x = a.rel b := by
  refine ⟨rfl, ?_, ?_⟩
  · unfold Pose.rel; rw [← Pose.mul_assoc', Pose.mul_inv_self h, Pose.one_mul']
  · intro x hx
    unfold Pose.rel; rw [← hx, ← Pose.mul_assoc', Pose.inv_mul_self h, Pose.one_mul']

/-- `relative_se3(A, A) = I` -/
theorem rel_self (a : Pose K) (h : IsRigid a) : a.rel a = Pose.one := Pose.rel_self h

/-- `A·relative_so3(A, B) = B` (it is `A⁻¹·B`) and `relative_so3(A, A) = I` for orthonormal `A` -/
theorem rel_so3_laws (a b : M3 K) (h : IsOrtho a) : a.mul (relSo3 a b) = b ∧ relSo3 a a = M3.one := by
  constructor
  · unfold relSo3; rw [← M3.mul_assoc', h.mul_transpose, M3.one_mul']
  · exact h

/-- the group is closed under the helpers: inverse, relative pose and product of rigid poses are rigid -/
theorem se3_closed (a b : Pose K) (ha : IsRigid a) (hb : IsRigid b) :
    IsRigid a.inv ∧ IsRigid (a.rel b) ∧ IsRigid (a.mul b) := ⟨ha.inv, ha.rel hb, ha.mul hb⟩

/-- `sim3_inverse(S)·S = I` and `S·sim3_inverse(S) = I` for `S = sim3(R, t, s)`, `R` orthonormal,
`s ≠ 0`, when the scale used by the inverse is `s` (evo recovers it as `det^(1/3)`, see
`sim3_scale_recovered_partial`) -/
theorem sim3_inv_mul (r : M3 K) (t : V3 K) (s : K) (h : IsOrtho r) (hs : s ≠ 0) :
    ((Pose.sim3 r t s).sim3Inv s).mul (Pose.sim3 r t s) = Pose.one ∧
    (Pose.sim3 r t s).mul ((Pose.sim3 r t s).sim3Inv s) = Pose.one :=
  Pose.sim3Inv_mul_cancel h t hs

/-- the inverse of `sim3(R, t, s)` is again a similarity, `sim3(Rᵀ, ·, 1/s)`: scale `1/s` -/
theorem sim3_inv_is_sim3 (r : M3 K) (t : V3 K) (s : K) (hs : s ≠ 0) :
    ∃ t', (Pose.sim3 r t s).sim3Inv s = Pose.sim3 r.transpose t' (1 / s) :=
  ⟨_, Pose.sim3Inv_sim3 r t hs⟩

/-- polynomial core of "the scale factor is recovered": `det(s·R) = s³` for a rotation `R`, so the
real cube root that `sim3_scale` takes is `s` for `s > 0` (`sim3_scale_recovered`, over ℝ).
**Partial**: valid in every field, but without the cube root; in the executable model the scale
is an input and the harness checks `sim3_scale(S)³ = det` per case. -/
theorem sim3_scale_recovered_partial (r : M3 K) (t : V3 K) (s : K) (h : IsRot r) :
    (Pose.sim3 r t s).rot.det = s ^ 3 := by
  simp only [Pose.sim3]; rw [M3.det_smul, h.2, mul_one]

end field

section ordered
variable {K : Type} [Field K] [LinearOrder K] [IsStrictOrderedRing K]

/-- on positive scales the cube is injective: `s³ = det` determines `s` -/
theorem sim3_scale_unique (s s' : K) (hs : 0 < s) (hs' : 0 < s') (h : s ^ 3 = s' ^ 3) : s = s' :=
  (pow_left_inj₀ hs.le hs'.le (by norm_num)).mp h

/-! ### the rotation angle, on its `(cos, sin²)` core -/

/-- **range**: for a rotation the core is a point `(c, s²)` with `c² + s² = 1`, `−1 ≤ c ≤ 1`,
`0 ≤ s² ≤ 1`, so that the angle `atan2(√s², c)` lies in `[0, π]` and has cosine `c` -/
theorem angle_range (a b : M3 K) (ha : IsRot a) (hb : IsRot b) :
    let cs := (relSo3 a b).angleCore
    cs.1 ^ 2 + cs.2 = 1 ∧ -1 ≤ cs.1 ∧ cs.1 ≤ 1 ∧ 0 ≤ cs.2 ∧ cs.2 ≤ 1 := by
  have hr := relSo3_isRot ha hb
  refine ⟨hr.angleCore_eq, hr.cos_range.1, hr.cos_range.2, M3.angleCore_snd_nonneg _, ?_⟩
  linarith [hr.angleCore_eq, sq_nonneg (relSo3 a b).angleCore.1]

/-- **symmetry**: `d(A, B) = d(B, A)` (for all matrices, no hypothesis needed) -/
theorem angle_symm (a b : M3 K) : (relSo3 b a).angleCore = (relSo3 a b).angleCore := by
  rw [relSo3_swap, M3.angleCore_transpose]

/-- **left invariance**: `d(T·A, T·B) = d(A, B)` for orthonormal `T` -/
theorem angle_left_invariant (t a b : M3 K) (ht : IsOrtho t) :
    (relSo3 (t.mul a) (t.mul b)).angleCore = (relSo3 a b).angleCore := by
  rw [relSo3_mul_left ht]

/-- **right invariance**: `d(A·T, B·T) = d(A, B)` for orthonormal `T` -/
theorem angle_right_invariant (t a b : M3 K) (ht : IsOrtho t) :
    (relSo3 (a.mul t) (b.mul t)).angleCore = (relSo3 a b).angleCore := by
  rw [relSo3_mul_right, M3.angleCore_conj ht]

/-- the cosine alone decides: `c = 1 ↔ A = B` -/
theorem angle_cos_one_iff_eq (a b : M3 K) (ha : IsOrtho a) (hb : IsOrtho b) :
    (relSo3 a b).angleCore.1 = 1 ↔ a = b := by
  constructor
  · intro hc
    -- `tr(AᵀB) = 3`, so `AᵀB = I`
    have hone := (ha.transpose.mul hb).eq_one_of_trace ((M3.trace_of_core hc).trans (by norm_num))
    have := (rel_so3_laws a b ha).1
    rwa [show relSo3 a b = M3.one from hone, M3.mul_one'] at this
  · rintro rfl
    rw [relSo3_self ha, M3.angleCore_one]

/-- **zero only for equal rotations**: the core is `(1, 0)` (angle 0) exactly when `A = B` -/
theorem angle_zero_iff_eq (a b : M3 K) (ha : IsOrtho a) (hb : IsOrtho b) :
    (relSo3 a b).angleCore = (1, 0) ↔ a = b := by
  constructor
  · intro h
    exact (angle_cos_one_iff_eq a b ha hb).mp (by rw [h])
  · rintro rfl
    rw [relSo3_self ha, M3.angleCore_one]

/-! ### exponential and logarithm through Rodrigues' formula -/

/-- `exp(0) = I` (whatever the coefficients) -/
theorem exp_zero (a b : K) : rodrigues (V3.zero : V3 K) a b = M3.one := rodrigues_zero a b

/-- a Rodrigues matrix whose coefficients satisfy `a² + b²‖v‖² = 2b` (true of
`a = sin θ/θ`, `b = (1 − cos θ)/θ²`, `θ = ‖v‖`) is a proper rotation -/
theorem exp_is_rotation (v : V3 K) (a b : K) (h : a * a + b * b * v.normSq = (1 + 1) * b) :
    IsRot (rodrigues v a b) := rodrigues_isRot v a b h

/-- **log ∘ exp, polynomial form.**  For `R = I + a·hat v + b·(hat v)²` the angle core is
`(1 − b‖v‖², a²‖v‖²)` (`= (cos θ, sin² θ)` for the coefficients above) and the axis vector
`vee((R − Rᵀ)/2)` is `a·v`: dividing by `a ≠ 0` (i.e. `sin θ ≠ 0`, `0 < θ < π`) gives `v` back.
**Partial**: the transcendental step `θ = atan2(√s², c)`, `a = sin θ/θ` is not in the model
(scipy is tied by the certificate, the harness checks `log(exp v) = v` for `‖v‖ < π`). -/
theorem log_exp_partial (v : V3 K) (a b : K) (ha : a ≠ 0) :
    (rodrigues v a b).angleCore = (1 - b * v.normSq, a * a * v.normSq) ∧
    V3.smul (1 / a) (rodrigues v a b).axisVec = v :=
  ⟨rodrigues_angleCore v a b, by rw [rodrigues_axisVec, V3.smul_smul_cancel (one_div_mul_cancel ha)]⟩

/-- **exp ∘ log, polynomial form.**  Every rotation with `c ≠ −1` (angle ≠ π) is the Rodrigues
matrix of its axis vector `w = vee((R − Rᵀ)/2)` with coefficients `(1, 1/(1 + c))`; with
`v = (θ/sin θ)·w` this is `exp(log R) = R` (`(1 − cos θ)/sin² θ = 1/(1 + cos θ)`).
**Partial**: angle π is excluded (the axis is then determined only up to sign) and the
transcendental rescaling `w ↦ v` is not in the model. -/
theorem exp_log_partial (r : M3 K) (h : IsRot r) (hc : 1 + r.angleCore.1 ≠ 0) :
    rodrigues r.axisVec 1 (1 / (1 + r.angleCore.1)) = r :=
  h.eq_rodrigues (one_div_mul_cancel hc)

end ordered

/-! ### membership tests (`is_so3`, `is_se3`, `is_sim3`) -/

/-- every exact rotation is accepted by `is_so3` -/
theorem so3_accepts_rotations (r : M3 ℚ) (h : IsRot r) : isSo3Tol r = true := by
  unfold isSo3Tol
  rw [h.2, h.1.transpose_mul, isClose_self_one, allClose_one]; rfl

/-- every exact rigid pose with bottom row `0 0 0 1` is accepted by `is_se3` -/
theorem se3_accepts_rigid (r : M3 ℚ) (t : V3 ℚ) (h : IsRot r) : isSe3Tol (Mat4.se3 r t) = true := by
  unfold isSe3Tol; simp only [Mat4.se3]; rw [so3_accepts_rotations r h]; simp [bottomOk]

/-- reflections (orthonormal, determinant −1) are rejected -/
theorem so3_rejects_reflection (r : M3 ℚ) (_h : IsOrtho r) (hd : r.det = -1) : isSo3Tol r = false := by
  unfold isSo3Tol
  rw [hd, show isClose (-1) 1 = false by decide +kernel]; rfl

/-- a rotation block scaled by `k` with `|k³ − 1| > 1.1e-5` is rejected (determinant test);
`1.1e-5 = atol + rtol·1` is the effective tolerance of `np.allclose(det, 1, atol=1e-6)` -/
theorem so3_rejects_scaled (r : M3 ℚ) (k : ℚ) (h : IsRot r) (hk : 11 / 1000000 < |k ^ 3 - 1|) :
    isSo3Tol (M3.smul k r) = false := by
  unfold isSo3Tol
  have : isClose (M3.smul k r).det 1 = false := by
    rw [Bool.eq_false_iff, ne_eq, isClose_one_iff, M3.det_smul, h.2, mul_one]
    exact not_le.mpr hk
  rw [this]; rfl

/-- … and so is one with `|k² − 1| > 1.1e-5` (diagonal of `RᵀR`) -/
theorem so3_rejects_scaled_diag (r : M3 ℚ) (k : ℚ) (h : IsRot r) (hk : 11 / 1000000 < |k ^ 2 - 1|) :
    isSo3Tol (M3.smul k r) = false := by
  unfold isSo3Tol
  have hg : M3.mul (M3.transpose (M3.smul k r)) (M3.smul k r) = M3.smul (k ^ 2) M3.one := by
    rw [M3.transpose_smul, M3.smul_mul, M3.mul_smul, M3.smul_smul, h.1.transpose_mul, sq]
  have : isClose (M3.mul (M3.transpose (M3.smul k r)) (M3.smul k r)).a00 (M3.one : M3 ℚ).a00 = false := by
    rw [hg, Bool.eq_false_iff, ne_eq]
    simp only [M3.smul, M3.one, mul_one]
    rw [isClose_one_iff]
    exact not_le.mpr hk
  unfold allClose
  rw [this]; simp

/-- a sheared rotation block `R·(I + k·e₀e₁ᵀ)` with `|k| > 1e-6` is rejected (off-diagonal of `RᵀR`) -/
theorem so3_rejects_sheared (r : M3 ℚ) (k : ℚ) (h : IsRot r) (hk : 1 / 1000000 < |k|) :
    isSo3Tol (r.mul ⟨1, k, 0, 0, 1, 0, 0, 0, 1⟩) = false := by
  unfold isSo3Tol
  set s : M3 ℚ := ⟨1, k, 0, 0, 1, 0, 0, 0, 1⟩ with hs
  have hg : M3.mul (M3.transpose (r.mul s)) (r.mul s) = s.transpose.mul s := by
    rw [M3.transpose_mul, M3.mul_assoc', ← M3.mul_assoc' r.transpose, h.1.transpose_mul, M3.one_mul']
  have : isClose (M3.mul (M3.transpose (r.mul s)) (r.mul s)).a01 (M3.one : M3 ℚ).a01 = false := by
    rw [hg, Bool.eq_false_iff, ne_eq]
    simp only [hs, M3.mul, M3.transpose, M3.one]
    rw [isClose_zero_iff]
    have : (1 : ℚ) * k + 0 * 1 + 0 * 0 = k := by ring
    rw [this]
    exact not_le.mpr hk
  unfold allClose
  rw [this]; simp

/-- a bottom row other than `0 0 0 1` is rejected by `is_se3` and `is_sim3`, whatever the rest -/
theorem se3_rejects_bottom_row (m : Mat4 ℚ) (s : ℚ) (hb : ¬ (m.b0 = 0 ∧ m.b1 = 0 ∧ m.b2 = 0 ∧ m.b3 = 1)) :
    isSe3Tol m = false ∧ isSim3Tol m s = false := by
  have : bottomOk m = false := by
    unfold bottomOk
    rw [Bool.eq_false_iff]
    intro hc
    simp only [Bool.and_eq_true, decide_eq_true_eq] at hc
    exact hb ⟨hc.1.1.1, hc.1.1.2, hc.1.2, hc.2⟩
  unfold isSe3Tol isSim3Tol
  rw [this]; simp

/-- `sim3(R, t, s)` with a rotation `R` and `s ≠ 0` is accepted by `is_sim3(·, s)` -/
theorem sim3_accepts_scaled_rotation (r : M3 ℚ) (t : V3 ℚ) (s : ℚ) (h : IsRot r) (hs : s ≠ 0) :
    isSim3Tol (Mat4.sim3 r t s) s = true := by
  unfold isSim3Tol
  simp only [Mat4.sim3, Pose.sim3]
  rw [M3.smul_smul_cancel (one_div_mul_cancel hs), so3_accepts_rotations r h]; simp [bottomOk]

/-! ### the angle itself, over ℝ: `angleR a b = atan2(√s², c)` -/
section real
open Real

/-- **the scale factor is recovered**: `sim3_scale(sim3(R, t, s)) = det(s·R)^(1/3) = s` for `s > 0`
(real power, as `numpy.power(·, 1/3)`) -/
theorem sim3_scale_recovered (r : M3 ℝ) (t : V3 ℝ) (s : ℝ) (h : IsRot r) (hs : 0 < s) :
    (Pose.sim3 r t s).rot.det ^ ((1 : ℝ) / 3) = s := by
  rw [sim3_scale_recovered_partial r t s h]
  have h3 : ((1 : ℝ) / 3) = ((3 : ℕ) : ℝ)⁻¹ := by norm_num
  rw [h3]
  exact Real.pow_rpow_inv_natCast hs.le (by norm_num)

/-- **range** `[0, π]` (for all matrices: the imaginary part `√s²` is non-negative) -/
theorem angle_range_real (a b : M3 ℝ) : 0 ≤ angleR a b ∧ angleR a b ≤ π :=
  atan2_range _ _ (Real.sqrt_nonneg _)

/-- angle facts of a single rotation `R`: `θ = atan2(√s², c)` is `arccos c ∈ [0, π]`, `cos θ = c`,
`sin θ = √s²` -/
theorem rot_angle_facts (r : M3 ℝ) (h : IsRot r) :
    atan2 (√r.angleCore.2) r.angleCore.1 = Real.arccos r.angleCore.1 ∧
    Real.cos (Real.arccos r.angleCore.1) = r.angleCore.1 ∧
    Real.sin (Real.arccos r.angleCore.1) = √r.angleCore.2 :=
  atan2_sqrt_of_circle (M3.angleCore_snd_nonneg r) h.angleCore_eq

/-- for rotations the angle is `arccos((tr(AᵀB) − 1)/2)`: its cosine is the core's `c`, its
squared sine the core's `s²` -/
theorem angle_eq_arccos (a b : M3 ℝ) (ha : IsRot a) (hb : IsRot b) :
    angleR a b = Real.arccos (relSo3 a b).angleCore.1 ∧
    Real.cos (angleR a b) = (relSo3 a b).angleCore.1 ∧
    Real.sin (angleR a b) ^ 2 = (relSo3 a b).angleCore.2 := by
  obtain ⟨key, hcos, hsin⟩ := rot_angle_facts (relSo3 a b) (relSo3_isRot ha hb)
  unfold angleR
  refine ⟨key, by rw [key, hcos], ?_⟩
  rw [key, hsin, Real.sq_sqrt (M3.angleCore_snd_nonneg _)]

/-- **symmetric** -/
theorem angle_symm_real (a b : M3 ℝ) : angleR b a = angleR a b := angleR_congr (angle_symm a b)

/-- **left-invariant** -/
theorem angle_left_invariant_real (t a b : M3 ℝ) (ht : IsOrtho t) :
    angleR (t.mul a) (t.mul b) = angleR a b := angleR_congr (angle_left_invariant t a b ht)

/-- **right-invariant** -/
theorem angle_right_invariant_real (t a b : M3 ℝ) (ht : IsOrtho t) :
    angleR (a.mul t) (b.mul t) = angleR a b := angleR_congr (angle_right_invariant t a b ht)

/-- **zero only for equal rotations** -/
theorem angle_zero_iff_eq_real (a b : M3 ℝ) (ha : IsRot a) (hb : IsRot b) :
    angleR a b = 0 ↔ a = b := by
  -- `arccos c = 0 ↔ 1 ≤ c`, and `c ≤ 1`
  rw [(angle_eq_arccos a b ha hb).1, Real.arccos_eq_zero, ← angle_cos_one_iff_eq a b ha.1 hb.1]
  exact ⟨le_antisymm (relSo3_isRot ha hb).cos_range.2, ge_of_eq⟩

/-- **triangle inequality** of the rotation angle, for all proper rotations:
`d(A, C) ≤ d(A, B) + d(B, C)`.  Through unit quaternions: the angle is twice the metric of projective 3-space
(`Lemmas/QuatAngle.lean`). -/
theorem angle_triangle (a b c : M3 ℝ) (ha : IsRot a) (hb : IsRot b) (hc : IsRot c) :
    angleR a c ≤ angleR a b + angleR b c := by
  rw [(angle_eq_arccos a c ha hc).1, (angle_eq_arccos a b ha hb).1, (angle_eq_arccos b c hb hc).1]
  exact arccos_core_relSo3_le a b c ha hb hc

/-- the rotation angle is a metric on SO(3): all four axioms together, plus bi-invariance -/
theorem angle_is_biinvariant_metric (a b c t : M3 ℝ) (ha : IsRot a) (hb : IsRot b) (hc : IsRot c)
    (ht : IsRot t) :
    (0 ≤ angleR a b ∧ angleR a b ≤ π) ∧ (angleR a b = 0 ↔ a = b) ∧ angleR b a = angleR a b ∧
    angleR a c ≤ angleR a b + angleR b c ∧
    angleR (t.mul a) (t.mul b) = angleR a b ∧ angleR (a.mul t) (b.mul t) = angleR a b :=
  ⟨angle_range_real a b, angle_zero_iff_eq_real a b ha hb, angle_symm_real a b,
   angle_triangle a b c ha hb hc, angle_left_invariant_real t a b ht.1, angle_right_invariant_real t a b ht.1⟩

/-! ### exp and log over ℝ (`expR`, `logR` of `Lemmas/LieReal.lean`: Rodrigues with `θ = ‖v‖`) -/

/-- `exp v` is a proper rotation for every rotation vector -/
theorem exp_is_rotation_real (v : V3 ℝ) : IsRot (expR v) := by
  apply rodrigues_isRot
  have hn : √v.normSq * √v.normSq = v.normSq := Real.mul_self_sqrt (V3.normSq_nonneg v)
  have := sinc_cosc_rel (√v.normSq)
  rw [hn] at this
  exact this

/-- `exp 0 = I` -/
theorem exp_zero_real : expR V3.zero = M3.one := rodrigues_zero _ _

/-- **log ∘ exp = id** on the open ball `0 < ‖v‖ < π`.  **Partial** w.r.t. the property only in
that `expR`/`logR` are the mathematical functions (scipy is tied by the certificate) and that
`‖v‖ = 0` is `exp_zero_real` + `logR I = 0` (`log_one_real`). -/
theorem log_exp_real_partial (v : V3 ℝ) (h0 : 0 < v.normSq) (hpi : v.normSq < π ^ 2) :
    logR (expR v) = v := by
  have hθpos : 0 < √v.normSq := Real.sqrt_pos.mpr h0
  have hθpi : √v.normSq < π := (Real.sqrt_lt' Real.pi_pos).mpr hpi
  have hsin : 0 < sin (√v.normSq) := Real.sin_pos_of_pos_of_lt_pi hθpos hθpi
  -- the angle read back from the core `(cos θ, sin² θ)` is `θ = ‖v‖`, and `vee((R − Rᵀ)/2) = (sin θ/θ)·v`
  unfold logR
  rw [expR_angleCore, expR_axisVec]
  simp only
  rw [Real.sqrt_sq hsin.le, atan2_cos_sin _ ⟨by linarith [Real.pi_pos], hθpi.le⟩, if_neg hsin.ne']
  exact V3.smul_smul_cancel (by rw [div_mul_eq_mul_div, mul_sincR, div_self hsin.ne']) v

/-- `log I = 0` -/
theorem log_one_real : logR M3.one = V3.zero := by
  unfold logR
  rw [M3.angleCore_one]
  have h0 : atan2 (√(0 : ℝ)) 1 = 0 := by rw [atan2_eq_zero_iff]; simp
  simp only [h0, Real.sin_zero, if_true]

/-- **exp ∘ log = id** on all rotations with angle `≠ π` (`c ≠ −1`).  **Partial**: angle π
(axis sign undetermined) is excluded. -/
theorem exp_log_real_partial (r : M3 ℝ) (h : IsRot r) (hπ : r.angleCore.1 ≠ -1) :
    expR (logR r) = r := by
  obtain ⟨hang, hcos, hsin⟩ := rot_angle_facts r h
  obtain ⟨h2, h3⟩ := h.cos_range
  rcases eq_or_lt_of_le h3 with hc1 | hclt
  · -- angle 0: R = I
    rw [h.1.eq_one_of_trace (by rw [M3.trace_of_core hc1]; norm_num), log_one_real, exp_zero_real]
  · -- 0 < θ < π: `log R = (θ/sin θ)·w` has length `θ`, since `‖w‖ = sin θ`
    set θ := Real.arccos r.angleCore.1
    have hθpos : 0 < θ := Real.arccos_pos.mpr hclt
    have hsinpos : 0 < sin θ :=
      Real.sin_pos_of_pos_of_lt_pi hθpos (Real.arccos_lt_pi.mpr (lt_of_le_of_ne h2 (Ne.symm hπ)))
    have hw : r.axisVec.normSq = sin θ ^ 2 := by
      rw [hsin, Real.sq_sqrt (M3.angleCore_snd_nonneg r), M3.angleCore_snd]
    have hlog : logR r = V3.smul (θ / sin θ) r.axisVec := by
      unfold logR
      rw [hang, if_neg hsinpos.ne']
    have ha : sincR θ * (θ / sin θ) = 1 := by
      rw [mul_div_assoc', mul_comm, mul_sincR, div_self hsinpos.ne']
    rw [hlog, expR_of_normSq hθpos.le (by rw [V3.normSq_smul, hw]; field_simp), rodrigues_smul, ha]
    -- the second coefficient is `(1 − cos θ)/sin² θ = 1/(1 + cos θ)`
    apply h.eq_rodrigues
    rw [← hcos]
    field_simp
    linear_combination (1 + cos θ) * sq_mul_coscR θ - Real.sin_sq_add_cos_sq θ

/-! ### exp and log on the whole group, including rotation angle exactly π

`logRFull R` (`Lemmas/LieAtPi.lean`) is `logR R` for `c ≠ −1` and `π·piAxis R` for `c = −1`, where
`piAxis R` is the largest column of `P = (R + I)/2 = n nᵀ` divided by the root of its diagonal entry
(what scipy's `as_rotvec` does through the quaternion of largest component). -/

/-- rotation by π about x: `diag(1, −1, −1)` (non-vacuity witness for the angle-π theorems) -/
def rxPi : M3 ℝ := ⟨1, 0, 0, 0, -1, 0, 0, 0, -1⟩
/-- rotation by π about `(1, 1, 0)/√2`: swaps x and y, negates z.  Its `P` has the diagonal `(1/2, 1/2, 0)`,
a tie; the examples below show of it only that it is a rotation with `c = −1`, not its logarithm. -/
def rSwapPi : M3 ℝ := ⟨0, 1, 0, 1, 0, 0, 0, 0, -1⟩

theorem rxPi_isRot : IsRot rxPi := by
  constructor
  · unfold IsOrtho; simp only [rxPi, M3.mul, M3.transpose, M3.one]; norm_num
  · simp only [rxPi, M3.det]; norm_num

theorem rxPi_core : rxPi.angleCore.1 = -1 := by
  rw [M3.angleCore_fst]; simp only [rxPi, M3.trace]; norm_num

theorem rSwapPi_isRot : IsRot rSwapPi := by
  constructor
  · unfold IsOrtho; simp only [rSwapPi, M3.mul, M3.transpose, M3.one]; norm_num
  · simp only [rSwapPi, M3.det]; norm_num

theorem rSwapPi_core : rSwapPi.angleCore.1 = -1 := by
  rw [M3.angleCore_fst]; simp only [rSwapPi, M3.trace]; norm_num

/-- **exp ∘ log = id on all of SO(3)**, rotation angle π included.  For evo: `so3_exp(so3_log(R)) = R`
for every proper rotation `R`; `so3_exp`/`so3_log` are mutually inverse over the whole group incl.
angle π (together with `log_exp_real`, `log_exp_real_at_pi`). -/
theorem exp_log_real (r : M3 ℝ) (h : IsRot r) : expR (logRFull r) = r := by
  unfold logRFull
  split_ifs with hc
  · exact expR_of_outer_eq_piP r _ (piAxis_normSq h hc) (piAxis_outer h hc)
  · exact exp_log_real_partial r h hc

-- non-vacuity: the π-branch is reached (`diag(1,−1,−1)` and the x↔y swap are rotations with `c = −1`),
-- and there the logarithm is the expected vector `(π, 0, 0)`
example : IsRot rxPi ∧ rxPi.angleCore.1 = -1 := ⟨rxPi_isRot, rxPi_core⟩
example : IsRot rSwapPi ∧ rSwapPi.angleCore.1 = -1 := ⟨rSwapPi_isRot, rSwapPi_core⟩
example : logRFull rxPi = ⟨π, 0, 0⟩ := by
  have hp : rxPi.piP = ⟨1, 0, 0, 0, 0, 0, 0, 0, 0⟩ := by
    simp only [rxPi, M3.piP, M3.smul, M3.add, M3.one]; norm_num
  unfold logRFull piAxis piAxisOf
  rw [if_pos rxPi_core, hp]
  ext <;> simp [V3.smul, M3.col0]
example : expR (logRFull rxPi) = rxPi := exp_log_real rxPi rxPi_isRot
example : expR (⟨π, 0, 0⟩ : V3 ℝ) = rxPi := by
  have := expR_pi_axis ⟨1, 0, 0⟩ (by simp [V3.normSq, V3.dot])
  rw [show V3.smul π (⟨1, 0, 0⟩ : V3 ℝ) = ⟨π, 0, 0⟩ by ext <;> simp [V3.smul]] at this
  rw [this]; simp only [rxPi, M3.smul, M3.add, M3.outer, M3.one]; norm_num

/-- at angle π **every** unit `n` with `n nᵀ = (R + I)/2` gives a logarithm `π·n` of `R` (such `n` are
`±piAxis R`, by `eq_or_neg_of_outer_eq`): evo's `so3_exp` maps whichever of the two `so3_log` returns back to `R`.
(`2 n nᵀ − I = R` is an identity; the hypotheses `IsRot`, `c = −1` only say when such an `n` exists.) -/
theorem exp_of_any_pi_log (r : M3 ℝ) (_h : IsRot r) (_hc : r.angleCore.1 = -1) (n : V3 ℝ)
    (hn : n.normSq = 1) (hP : M3.outer n n = r.piP) : expR (V3.smul π n) = r :=
  expR_of_outer_eq_piP r n hn hP

-- non-vacuity: both `(1,0,0)` and `(−1,0,0)` satisfy the hypotheses for `diag(1,−1,−1)`
example : (⟨-1, 0, 0⟩ : V3 ℝ).normSq = 1 ∧ M3.outer (⟨-1, 0, 0⟩ : V3 ℝ) ⟨-1, 0, 0⟩ = rxPi.piP := by
  constructor
  · simp [V3.normSq, V3.dot]
  · simp only [rxPi, M3.piP, M3.smul, M3.add, M3.one, M3.outer]; norm_num
example : (⟨1, 0, 0⟩ : V3 ℝ).normSq = 1 ∧ M3.outer (⟨1, 0, 0⟩ : V3 ℝ) ⟨1, 0, 0⟩ = rxPi.piP := by
  constructor
  · simp [V3.normSq, V3.dot]
  · simp only [rxPi, M3.piP, M3.smul, M3.add, M3.one, M3.outer]; norm_num

/-- log ∘ exp on the sphere `‖v‖ = π`, unit-axis form -/
theorem log_exp_pi_unit (u : V3 ℝ) (hu : u.normSq = 1) :
    logRFull (expR (V3.smul π u)) = V3.smul π u ∨
    logRFull (expR (V3.smul π u)) = V3.smul (-1) (V3.smul π u) := by
  have hR := expR_pi_axis u hu
  have hrot : IsRot (expR (V3.smul π u)) := exp_is_rotation_real _
  have hc : (expR (V3.smul π u)).angleCore.1 = -1 := by
    rw [expR_angleCore_fst, V3.normSq_smul, hu, mul_one, Real.sqrt_sq Real.pi_pos.le, Real.cos_pi]
  have hout : M3.outer (piAxis (expR (V3.smul π u))) (piAxis (expR (V3.smul π u))) = M3.outer u u := by
    rw [piAxis_outer hrot hc, hR, M3.piP_two_outer_sub_one]
  unfold logRFull
  rw [if_pos hc]
  rcases eq_or_neg_of_outer_eq hu hout with e | e
  · left; rw [e]
  · right; rw [e, V3.smul_smul, V3.smul_smul, mul_comm]

/-- **log ∘ exp at rotation angle exactly π** (`‖v‖ = π`): the logarithm returns the vector or its
negative — `v` and `−v` are both logarithms of the same rotation (`exp v = exp(−v)` there), so
nothing better can hold.  For evo: `so3_log(so3_exp(v)) = ±v` when `‖v‖ = π`. -/
theorem log_exp_real_at_pi (v : V3 ℝ) (h : v.normSq = π ^ 2) :
    logRFull (expR v) = v ∨ logRFull (expR v) = V3.smul (-1) v := by
  have hπ : π ≠ 0 := Real.pi_pos.ne'
  have hv : v = V3.smul π (V3.smul (1 / π) v) := (V3.smul_smul_cancel (mul_one_div_cancel hπ) v).symm
  have hu : (V3.smul (1 / π) v).normSq = 1 := by
    rw [V3.normSq_smul, h]; field_simp
  have := log_exp_pi_unit _ hu
  rw [← hv] at this
  exact this

-- non-vacuity: `(π, 0, 0)` lies on the sphere
example : (⟨π, 0, 0⟩ : V3 ℝ).normSq = π ^ 2 := by simp [V3.normSq, V3.dot]; ring

/-- **log ∘ exp = id on the whole open ball** `‖v‖ < π`, `v = 0` included.  For evo:
`so3_log(so3_exp(v)) = v`; with `exp_log_real` and `log_exp_real_at_pi`, `so3_exp`/`so3_log` are
mutually inverse over the whole group incl. angle π (where the rotation vector is unique up to
sign). -/
theorem log_exp_real (v : V3 ℝ) (hpi : v.normSq < π ^ 2) : logRFull (expR v) = v := by
  have hθpi : √v.normSq < π := (Real.sqrt_lt' Real.pi_pos).mpr hpi
  have hc : (expR v).angleCore.1 ≠ -1 := by
    rw [expR_angleCore_fst]
    have := Real.cos_lt_cos_of_nonneg_of_le_pi (Real.sqrt_nonneg v.normSq) le_rfl hθpi
    rw [Real.cos_pi] at this
    exact this.ne'
  unfold logRFull
  rw [if_neg hc]
  rcases (V3.normSq_nonneg v).eq_or_lt with h0 | h0
  · rw [V3.eq_zero_of_normSq h0.symm, exp_zero_real, log_one_real]
  · exact log_exp_real_partial v h0 hpi

-- non-vacuity: the zero vector and `(1, 0, 0)` are in the ball (`1 < 4 ≤ π²`)
example : (V3.zero : V3 ℝ).normSq < π ^ 2 := by
  simp only [V3.normSq, V3.dot, V3.zero]; nlinarith [Real.two_le_pi]
example : (⟨1, 0, 0⟩ : V3 ℝ).normSq < π ^ 2 := by
  simp only [V3.normSq, V3.dot]; nlinarith [Real.two_le_pi]

end real

/-! ### non-vacuity: concrete instances of the hypotheses -/

/-- rotation by the 3-4-5 angle about z -/
def r345 : M3 ℚ := ⟨3/5, -4/5, 0, 4/5, 3/5, 0, 0, 0, 1⟩
/-- rotation by 90° about x -/
def rx90 : M3 ℚ := ⟨1, 0, 0, 0, 0, -1, 0, 1, 0⟩

example : IsRot r345 := ⟨by unfold IsOrtho; decide +kernel, by decide +kernel⟩
example : IsRot rx90 := ⟨by unfold IsOrtho; decide +kernel, by decide +kernel⟩
example : IsRigid (⟨r345, ⟨1, 2, 3⟩⟩ : Pose ℚ) := by unfold IsRigid IsOrtho; decide +kernel
example : (relSo3 r345 rx90).angleCore = (-1/5, 24/25) := by decide +kernel
example : (relSo3 r345 r345).angleCore = (1, 0) := by decide +kernel
example : IsOrtho (⟨1, 0, 0, 0, 1, 0, 0, 0, -1⟩ : M3 ℚ) ∧ (⟨1, 0, 0, 0, 1, 0, 0, 0, -1⟩ : M3 ℚ).det = -1 :=
  ⟨by unfold IsOrtho; decide +kernel, by decide +kernel⟩
example : (11 : ℚ) / 1000000 < |(101 / 100 : ℚ) ^ 3 - 1| := by norm_num [abs_of_pos]
-- the Rodrigues hypothesis with θ² = ‖v‖² = 1 is met by rational points of the circle:
-- a = sin θ/θ = 4/5, b = (1 − cos θ)/θ² = 2/5  (cos = 3/5)
example : ((4 : ℚ) / 5) * (4 / 5) + (2 / 5) * (2 / 5) * (⟨0, 0, 1⟩ : V3 ℚ).normSq = (1 + 1) * (2 / 5) := by
  decide +kernel
example : rodrigues (⟨0, 0, 1⟩ : V3 ℚ) (4 / 5) (2 / 5) = r345 := by decide +kernel
example : 1 + r345.angleCore.1 ≠ 0 := by decide +kernel
example : isSo3Tol (M3.smul (1000004 / 1000000) r345) = false ∧ isSo3Tol (M3.smul (1000003 / 1000000) r345) = true := by
  constructor <;> decide +kernel

end Evo.C09
