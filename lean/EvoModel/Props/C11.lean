/-
C11 — sub-sampling, cropping, splitting and merging select exactly the specified poses.
Property theorems about `Evo.Select` (model of `downsample`, `motion_filter`/`filter_by_motion`,
`reduce_to_time_range`, `_jumps` + the three splitters, `merge`).

Rounding: `numpy.linspace(0, n-1, N, dtype=int)` rounds twice in binary64. The clauses that depend on
it (`linspace_in_envelope`, `linspace_strict_mono`, `linspace_even`, `downsample_count`, …) are proved
for EVERY rounding function `r` with `F64Rounding r` (relative error ≤ 2⁻⁵³ on [1/2, 2⁵³], exact on
naturals < 2⁵³); `rne_is_f64_rounding` shows that evo's rounding `Evo.F64.rne!` is one
(`Lemmas/SelectF64.lean`, from the `rne` specification lemmas of `Lemmas/F64.lean`), and the `…_evo`
theorems instantiate the clauses for `downsample = downsampleWith F64.rne!` without any hypothesis
about rounding, for trajectories of up to 2²⁵ poses.
-/
import EvoModel.Lemmas.Select
import EvoModel.Lemmas.SelectF64
import Mathlib.Tactic.NormNum
namespace Evo.C11
open Evo Evo.Select

/-- "does nothing if the trajectory already has less or equal poses" -/
theorem downsample_noop_if_small {α} (r : Rat → Rat) (l : List α) (N : Nat) (h : l.length ≤ N) :
    downsampleWith r l N = .ok l := by
  simp [downsampleWith, downsampleIdsWith, h]

/-- fewer than one pose is refused (when there is something to drop) -/
theorem downsample_refuses_zero {α} (r : Rat → Rat) (l : List α) (h : 0 < l.length) :
    downsampleWith r l 0 = .error .traj := by
  have : ¬ l.length ≤ 0 := by omega
  simp [downsampleWith, downsampleIdsWith, this]

/-- `linspace` returns exactly `N` ids (any rounding) -/
theorem linspace_count (r : Rat → Rat) (n N : Nat) : (linspaceIdsWith r n N).length = N :=
  linspaceIdsWith_length r n N

/-- the last id is `n − 1` for `N ≥ 2` (any rounding: numpy sets it explicitly) -/
theorem linspace_last (r : Rat → Rat) (n N : Nat) (hN : 2 ≤ N) :
    (linspaceIdsWith r n N)[N - 1]? = some (n - 1) := linspaceIdsWith_last r n N hN

/-- the first id is `0` for evo's rounding (`0 · step = 0` and `rne 0 = 0`; no size bound) -/
theorem linspace_first (n N : Nat) (hN : 1 ≤ N) : (linspaceIds n N)[0]? = some 0 :=
  linspaceIdsWith_first F64.rne! f64Rounding_rne n N hN

/-- **the float rounding matters**: `n = 31, N = 23, k = 11`: numpy (and the model) keep pose 14,
the exact value `⌊11·30/22⌋` is 15 -/
theorem linspace_rounding_matters :
    (linspaceIds 31 23)[11]? = some 14 ∧ 11 * 30 / 22 = 15 := by decide +kernel

/-- **every id is the exact floor `⌊k(n−1)/(N−1)⌋`, or one below it where `k(n−1)/(N−1)` is an integer
although `(n−1)/(N−1)` is not** — from the rounding error bound -/
theorem linspace_in_envelope (r : Rat → Rat) (hr : F64Rounding r) (n N : Nat)
    (hN : 2 ≤ N) (hNn : N < n) (hsz : 3 * (n - 1) * (N - 1) < 2 ^ 53) (k i : Nat)
    (hk : (linspaceIdsWith r n N)[k]? = some i) : InEnvelope (n - 1) (N - 1) k i := by
  have hlen := linspaceIdsWith_length r n N
  have hkN : k < N := by
    have := (List.getElem?_eq_some_iff.mp hk).1
    omega
  by_cases hk1 : k < N - 1
  · rw [linspaceIdsWith_lt r n N k hN hk1] at hk
    injection hk with hk
    rw [← hk]
    exact linspace_id_in_envelope r hr (n - 1) (N - 1) k (by omega) (by omega) hk1 hsz
  · -- the last id is set to `n − 1` explicitly
    have : k = N - 1 := by omega
    subst this
    rw [linspaceIdsWith_last r n N hN] at hk
    injection hk with hk
    left
    rw [← hk, Nat.mul_div_cancel_left _ (by omega)]

/-- **pure integer arithmetic**: every list of `b + 1` ids in the envelope (`a = n−1`, `b = N−1`,
`1 ≤ b < a`) that ends with `a` starts at 0, is strictly increasing, has all gaps in
`{⌊a/b⌋, ⌈a/b⌉}` (exactly `a/b` when `b ∣ a`), deviates by at most 1 from `k·a/b`, and stays `≤ a` -/
theorem envelope_props (a b : Nat) (hb : 1 ≤ b) (hba : b < a) (ids : List Nat)
    (hlen : ids.length = b + 1)
    (henv : ∀ k i, ids[k]? = some i → InEnvelope a b k i)
    (hlast : ids[b]? = some a) :
    ids[0]? = some 0 ∧
    (∀ k i j, ids[k]? = some i → ids[k + 1]? = some j →
        i + a / b ≤ j ∧ j ≤ i + a / b + (if b ∣ a then 0 else 1)) ∧
    ids.Pairwise (· < ·) ∧
    (∀ k i, ids[k]? = some i → i * b ≤ k * a ∧ k * a ≤ (i + 1) * b) ∧
    (∀ i ∈ ids, i ≤ a) := by
  have hgap : ∀ k i j, ids[k]? = some i → ids[k + 1]? = some j →
      i + a / b ≤ j ∧ j ≤ i + a / b + (if b ∣ a then 0 else 1) := by
    intro k i j hi hj
    exact envelope_gap a b k i j (by omega) (henv k i hi) (henv (k + 1) j hj)
  have hdev : ∀ k i, ids[k]? = some i → i * b ≤ k * a ∧ k * a ≤ (i + 1) * b :=
    fun k i hi => envelope_dev a b k i (by omega) (henv k i hi)
  have hab1 : 1 ≤ a / b := (Nat.one_le_div_iff (by omega)).mpr (by omega)
  refine ⟨?_, hgap, ?_, hdev, ?_⟩
  · have h0 : 0 < ids.length := by omega
    have e : ids[0]? = some ids[0] := List.getElem?_eq_getElem h0
    rw [e, envelope_zero a b _ (henv 0 _ e)]
  · apply List.isChain_iff_pairwise.mp
    apply List.isChain_iff_getElem.mpr
    intro i hi
    have e1 : ids[i]? = some ids[i] := List.getElem?_eq_getElem (by omega)
    have e2 : ids[i + 1]? = some ids[i + 1] := List.getElem?_eq_getElem hi
    have := (hgap i _ _ e1 e2).1
    omega
  · intro i hi
    obtain ⟨k, hk, rfl⟩ := List.getElem_of_mem hi
    have e : ids[k]? = some ids[k] := List.getElem?_eq_getElem hk
    have h1 := (hdev k _ e).1
    have hkb : k ≤ b := by omega
    have h2 : k * a ≤ b * a := Nat.mul_le_mul_right a hkb
    have h3 : ids[k] * b ≤ a * b := by rw [Nat.mul_comm a b]; exact h1.trans h2
    exact Nat.le_of_mul_le_mul_right h3 (by omega)

/-- **kept ids strictly increase** (so down-sampling preserves the order and never duplicates a pose) -/
theorem linspace_strict_mono (r : Rat → Rat) (hr : F64Rounding r) (n N : Nat)
    (hN : 1 ≤ N) (hNn : N < n) (hsz : 3 * (n - 1) * (N - 1) < 2 ^ 53) :
    (linspaceIdsWith r n N).Pairwise (· < ·) ∧ ∀ i ∈ linspaceIdsWith r n N, i < n := by
  by_cases h1 : N = 1
  · subst h1
    simp [linspaceIdsWith]; omega
  · have hp := envelope_props (n - 1) (N - 1) (by omega) (by omega) _ (by rw [linspaceIdsWith_length]; omega)
      (linspace_in_envelope r hr n N (by omega) hNn hsz) (linspaceIdsWith_last r n N (by omega))
    refine ⟨hp.2.2.1, fun i hi => ?_⟩
    have := hp.2.2.2.2 i hi
    omega

/-- **evenly spaced by index**: with `s = (n−1)/(N−1)`, every gap is `⌊s⌋` or `⌈s⌉` and
`|id_k − k·s| ≤ 1` (stated in integers, multiplied by `N − 1`) -/
theorem linspace_even (r : Rat → Rat) (hr : F64Rounding r) (n N : Nat)
    (hN : 2 ≤ N) (hNn : N < n) (hsz : 3 * (n - 1) * (N - 1) < 2 ^ 53) (k i : Nat)
    (hi : (linspaceIdsWith r n N)[k]? = some i) :
    (i * (N - 1) ≤ k * (n - 1) ∧ k * (n - 1) ≤ (i + 1) * (N - 1)) ∧
    ∀ j, (linspaceIdsWith r n N)[k + 1]? = some j →
      i + (n - 1) / (N - 1) ≤ j ∧ j ≤ i + (n - 1) / (N - 1) + (if (N - 1) ∣ (n - 1) then 0 else 1) := by
  have hp := envelope_props (n - 1) (N - 1) (by omega) (by omega) _ (by rw [linspaceIdsWith_length]; omega)
    (linspace_in_envelope r hr n N hN hNn hsz) (linspaceIdsWith_last r n N hN)
  exact ⟨hp.2.2.2.1 k i hi, fun j hj => hp.2.1 k i j hi hj⟩

/-- all clauses about `downsample` at once, for any rounding; the size bound is needed only where poses are dropped
(so that the `…_evo` theorems need no bound on `N`) -/
theorem downsampleWith_spec {α} (r : Rat → Rat) (hr : F64Rounding r) (l l' : List α) (N : Nat)
    (hsz : N < l.length → 3 * (l.length - 1) * (N - 1) < 2 ^ 53)
    (h : downsampleWith r l N = .ok l') :
    l'.length = min N l.length ∧ l'.Sublist l ∧
      (1 ≤ N → l'[0]? = l[0]? ∧ (2 ≤ N → l'[l'.length - 1]? = l[l.length - 1]?)) := by
  unfold downsampleWith downsampleIdsWith at h
  split_ifs at h with hs h0
  · cases h
    exact ⟨by omega, .refl _, fun _ => ⟨rfl, fun _ => rfl⟩⟩
  · cases h
    have hN : 1 ≤ N := by omega
    obtain ⟨hpw, hlt⟩ := linspace_strict_mono r hr l.length N hN (by omega) (hsz (by omega))
    have hlen : (reduceIds l (linspaceIdsWith r l.length N)).length = N := by
      rw [reduceIds_length l _ hlt, linspaceIdsWith_length]
    have hget := reduceIds_getElem? l _ hlt
    refine ⟨by omega, reduceIds_sublist l _ hpw, fun _ => ⟨?_, fun hN2 => ?_⟩⟩
    · rw [hget 0, linspaceIdsWith_first r hr _ N hN]; rfl
    · rw [hlen, hget (N - 1), linspaceIdsWith_last r _ N hN2]; rfl

/-- **down-sampling to N keeps exactly min(N, count) poses** -/
theorem downsample_count {α} (r : Rat → Rat) (hr : F64Rounding r) (l l' : List α) (N : Nat)
    (hsz : 3 * (l.length - 1) * (N - 1) < 2 ^ 53)
    (h : downsampleWith r l N = .ok l') : l'.length = min N l.length :=
  (downsampleWith_spec r hr l l' N (fun _ => hsz) h).1

/-- evo's rounding (`Evo.F64.rne!`, the executable binary64 round-to-nearest-even that the driver
runs and that is compared with numpy on every run) satisfies the rounding hypothesis -/
theorem rne_is_f64_rounding : F64Rounding F64.rne! := f64Rounding_rne

theorem size_ok (n N : Nat) (hNn : N ≤ n) (hn : n ≤ 2 ^ 25) : 3 * (n - 1) * (N - 1) < 2 ^ 53 :=
  calc 3 * (n - 1) * (N - 1) ≤ 3 * 2 ^ 25 * 2 ^ 25 :=
        Nat.mul_le_mul (Nat.mul_le_mul_left 3 (by omega)) (by omega)
    _ < 2 ^ 53 := by norm_num

theorem downsample_spec_evo {α} (l l' : List α) (N : Nat) (hn : l.length ≤ 2 ^ 25) (h : downsample l N = .ok l') :
    l'.length = min N l.length ∧ l'.Sublist l ∧
      (1 ≤ N → l'[0]? = l[0]? ∧ (2 ≤ N → l'[l'.length - 1]? = l[l.length - 1]?)) :=
  downsampleWith_spec F64.rne! rne_is_f64_rounding l l' N (fun hN => size_ok _ _ hN.le hn) h

/-- **Down-sampling to N keeps exactly min(N, count) poses** (evo's float evaluation) -/
theorem downsample_count_evo {α} (l l' : List α) (N : Nat) (hn : l.length ≤ 2 ^ 25)
    (h : downsample l N = .ok l') : l'.length = min N l.length :=
  (downsample_spec_evo l l' N hn h).1

/-- **… always including the first pose and (for N ≥ 2) the last** (evo's float evaluation) -/
theorem downsample_keeps_first_last_evo {α} (l l' : List α) (N : Nat) (hN : 1 ≤ N) (hn : l.length ≤ 2 ^ 25)
    (h : downsample l N = .ok l') :
    l'[0]? = l[0]? ∧ (2 ≤ N → l'[l'.length - 1]? = l[l.length - 1]?) :=
  (downsample_spec_evo l l' N hn h).2.2 hN

/-- **… evenly spaced by index** (evo's float evaluation): ids strictly increase, every gap is
`⌊s⌋` or `⌈s⌉`, `|id_k − k·s| ≤ 1` for `s = (n−1)/(N−1)` -/
theorem linspace_even_evo (n N : Nat) (hN : 2 ≤ N) (hNn : N < n) (hn : n ≤ 2 ^ 25) :
    (linspaceIds n N).Pairwise (· < ·) ∧
    ∀ k i, (linspaceIds n N)[k]? = some i →
      (i * (N - 1) ≤ k * (n - 1) ∧ k * (n - 1) ≤ (i + 1) * (N - 1)) ∧
      ∀ j, (linspaceIds n N)[k + 1]? = some j →
        i + (n - 1) / (N - 1) ≤ j ∧ j ≤ i + (n - 1) / (N - 1) + (if (N - 1) ∣ (n - 1) then 0 else 1) := by
  have hsz := size_ok n N (by omega) hn
  exact ⟨(linspace_strict_mono F64.rne! rne_is_f64_rounding n N (by omega) hNn hsz).1,
    fun k i hi => linspace_even F64.rne! rne_is_f64_rounding n N hN hNn hsz k i hi⟩

/-- **… preserving the relative order of the kept poses** (evo's float evaluation) -/
theorem downsample_preserves_order_evo {α} (l l' : List α) (N : Nat) (hN : 1 ≤ N) (hn : l.length ≤ 2 ^ 25)
    (h : downsample l N = .ok l') : l'.Sublist l :=
  -- `hN` is not needed: with `N = 0` the call succeeds on the empty list only, and returns it
  have _ := hN
  (downsample_spec_evo l l' N hn h).2.1

/-- fewer than two poses, or a negative threshold, are refused (`FilterException`) -/
theorem motion_refuses (acc : List Rat) (ang : Nat → Nat → Rat) (d a : Rat) :
    motionFilterAcc acc ang d a = .error .filter ↔ (acc.length < 2 ∨ d < 0 ∨ a < 0) := by
  unfold motionFilterAcc
  split_ifs <;> simp [*]

theorem motion_ok (acc : List Rat) (ang : Nat → Nat → Rat) (d a : Rat) (ids : List Nat)
    (h : motionFilterAcc acc ang d a = .ok ids) :
    ids = 0 :: motionGo ang d a acc.tail 1 0 0 ∧ 2 ≤ acc.length := by
  rw [motionFilterAcc, guard_ok_iff, guard_ok_iff, guard_ok_iff] at h
  exact ⟨(Except.ok.inj h.2.2.2).symm, by omega⟩

/-- **motion filtering always keeps the first pose** -/
theorem motion_keeps_first (acc : List Rat) (ang : Nat → Nat → Rat) (d a : Rat) (ids : List Nat)
    (h : motionFilterAcc acc ang d a = .ok ids) : ids.head? = some 0 := by
  rw [(motion_ok acc ang d a ids h).1]; rfl

/-- kept ids are strictly increasing and valid -/
theorem motion_ids_increasing (acc : List Rat) (ang : Nat → Nat → Rat) (d a : Rat) (ids : List Nat)
    (h : motionFilterAcc acc ang d a = .ok ids) :
    ids.Pairwise (· < ·) ∧ ∀ i ∈ ids, i < acc.length := by
  obtain ⟨rfl, hlen⟩ := motion_ok acc ang d a ids h
  -- the kept ids are a sublist of `0 :: [1, …, acc.length − 1]`
  have hsub : (0 :: motionGo ang d a acc.tail 1 0 0).Sublist (List.range' 0 (acc.tail.length + 1)) :=
    (motionGo_sublist ang d a acc.tail 1 0 0).cons_cons 0
  refine ⟨List.Pairwise.sublist hsub List.pairwise_lt_range', fun i hi => ?_⟩
  have := List.mem_range'_1.mp (hsub.subset hi)
  rw [List.length_tail] at this
  omega

/-- **a later pose is kept exactly if, since the last kept pose `p`, the travelled path length
`acc[i] − acc[p]` reached the distance threshold or the rotation angle `ang p i` reached the angle
threshold** (`acc` = accumulated distances, starting at 0) -/
theorem motion_keep_iff (acc : List Rat) (ang : Nat → Nat → Rat) (d a : Rat) (ids : List Nat)
    (h : motionFilterAcc acc ang d a = .ok ids) (h0 : acc[0]? = some 0)
    (i p : Nat) (hi0 : 0 < i) (hi : i < acc.length) (hp : IsLastKeptBefore ids p i) :
    i ∈ ids ↔ (d ≤ acc.getD i 0 - acc.getD p 0 ∨ a ≤ ang p i) := by
  obtain ⟨rfl, hlen⟩ := motion_ok acc ang d a ids h
  have hval : ∀ k, ∀ (hk : k < acc.tail.length), acc.tail[k] = acc.getD (1 + k) 0 := fun k hk => by
    rw [List.getElem_tail, Nat.add_comm 1 k, List.getD_eq_getElem?_getD, List.getElem?_eq_getElem, Option.getD_some]
  have hpd : (0 : Rat) = acc.getD 0 0 := by rw [List.getD_eq_getElem?_getD, h0, Option.getD_some]
  rw [List.mem_cons, ← motionGo_spec ang d a (acc.getD · 0) acc.tail 1 0 0 hval hpd Nat.one_pos i p hi0
    (by rw [List.length_tail]; omega) hp]
  exact or_iff_right (by omega)

/-- the two loops of F18 in step: `(accFrom s steps).tail` are the accumulated lengths of the poses after the one at
path length `s`, and `s - pd` is the path since the last kept pose -/
theorem motionGo_acc_eq_steps (ang : Nat → Nat → Rat) (d a : Rat) (steps : List Rat) (s pd : Rat) (i pid : Nat) :
    motionGo ang d a (accFrom s steps).tail i pid pd = motionGoSteps ang d a steps i pid (s - pd) := by
  induction steps generalizing s pd i pid with
  | nil => simp [accFrom, motionGo, motionGoSteps]
  | cons l r ih =>
    have e1 : s + l - pd = s - pd + l := by ring
    rw [accFrom, List.tail_cons, accFrom_eq_cons, motionGo, motionGoSteps,
      ih (s + l) (s + l) (i + 1) i, ih (s + l) pd (i + 1) pid, e1, sub_self]

/-- F18: in exact arithmetic, the motion filter that takes differences of the accumulated path length (what
`filter_by_motion` did before the repair) and the one that accumulates the path since the last kept pose (what it does
now) are the same function - the defect was float64 rounding of the accumulated length only. -/
theorem motionFilter_steps_formulation_agrees (lens : List Rat) (ang : Nat → Nat → Rat) (d a : Rat) :
    motionFilterSteps lens ang d a = motionFilter lens ang d a := by
  unfold motionFilterSteps motionFilter motionFilterAcc accDist
  rw [accFrom_length, motionGo_acc_eq_steps, sub_self]

/-- `motion_keep_iff` for `filter_by_motion` from the step lengths, as the code reads since F18: the accumulated
distances evo computes start at 0 -/
theorem motion_keep_iff_lens_steps (lens : List Rat) (ang : Nat → Nat → Rat) (d a : Rat) (ids : List Nat)
    (h : motionFilterSteps lens ang d a = .ok ids)
    (i p : Nat) (hi0 : 0 < i) (hi : i ≤ lens.length) (hp : IsLastKeptBefore ids p i) :
    i ∈ ids ↔ (d ≤ (accDist lens).getD i 0 - (accDist lens).getD p 0 ∨ a ≤ ang p i) := by
  rw [motionFilter_steps_formulation_agrees, motionFilter] at h
  have h0 : (accDist lens)[0]? = some 0 := by rw [accDist, accFrom_eq_cons]; rfl
  exact motion_keep_iff (accDist lens) ang d a ids h h0 i p hi0 (by rw [accDist, accFrom_length]; omega) hp

/-- **time cropping keeps exactly the poses with start ≤ t ≤ end** (`None` = first / last stamp) -/
theorem crop_iff (ts : List Rat) (s e : Option Rat) (ids : List Nat) (h : cropIds ts s e = .ok ids) :
    ∃ t0, ts.head? = some t0 ∧ ∀ i, i ∈ ids ↔
      ∃ (hi : i < ts.length), s.getD t0 ≤ ts[i] ∧ ts[i] ≤ e.getD (ts.getLastD t0) := by
  obtain ⟨t0, ht0, rfl, _⟩ := cropIds_spec ts s e ids h
  refine ⟨t0, ht0, fun i => ?_⟩
  rw [mem_idsWhere]
  simp only [Bool.and_eq_true, decide_eq_true_eq]

/-- refusal exactly for an empty trajectory or start > end -/
theorem crop_refuses_iff (ts : List Rat) (s e : Option Rat) :
    cropIds ts s e = .error .traj ↔
      ts = [] ∨ ∃ t0, ts.head? = some t0 ∧ e.getD (ts.getLastD t0) < s.getD t0 := by
  unfold cropIds
  cases ts with
  | nil => simp
  | cons t0 r =>
    simp only [List.head?_cons, Option.some.injEq, exists_eq_left', reduceCtorEq, false_or]
    split_ifs with hlt
    · simpa using hlt
    · simpa using hlt

theorem crop_ids_increasing (ts : List Rat) (s e : Option Rat) (ids : List Nat)
    (h : cropIds ts s e = .ok ids) : ids.Pairwise (· < ·) := by
  obtain ⟨t0, _, rfl, _⟩ := cropIds_spec ts s e ids h
  exact idsWhere_pairwise _ _ _

/-- cropping a trajectory preserves order and keeps stamp and pose together -/
theorem crop_preserves_order {α} (tr out : List (Rat × α)) (s e : Option Rat)
    (h : crop tr s e = .ok out) : out.Sublist tr := by
  unfold crop at h
  split at h
  · cases h
  · rename_i ids hids
    injection h with h; subst h
    exact reduceIds_sublist tr ids (crop_ids_increasing _ s e ids hids)

/-- **concatenating the parts reproduces the trajectory** (`steps` has one entry per pair of
consecutive poses) -/
theorem split_concat {α} (l : List α) (thr : Rat) (steps : List Rat)
    (hlen : steps.length = l.length - 1) :
    (slices l (cutsOf thr steps l.length)).flatten = l := by
  cases l with
  | nil =>
    obtain rfl := List.length_eq_zero_iff.mp hlen
    rfl
  | cons x l =>
    have hpw := (cutsOf_pairwise thr steps (x :: l).length (by simp [hlen])).imp Nat.le_of_lt
    rw [cutsOf] at hpw ⊢
    rw [slices_flatten _ 0 _ hpw, List.getLastD_concat, slice_zero_length]

/-- **every cut is at a step exceeding the threshold**: `c` is an interior cut iff the step from
pose `c − 1` to pose `c` exceeds the threshold -/
theorem split_cut_exceeds (thr : Rat) (steps : List Rat) (n : Nat) (hn : steps.length < n) (c : Nat) :
    (c ∈ cutsOf thr steps n ∧ c ≠ 0 ∧ c ≠ n) ↔
      ∃ k, ∃ (h : k < steps.length), c = k + 1 ∧ c ≠ n ∧ thr < steps[k] := by
  rw [mem_cutsOf]
  constructor
  · rintro ⟨h | ⟨k, hk, rfl, hp⟩ | h, h0, hn'⟩
    · exact absurd h h0
    · exact ⟨k, hk, rfl, hn', hp⟩
    · exact absurd h hn'
  · rintro ⟨k, hk, rfl, hn', hp⟩
    exact ⟨.inr (.inl ⟨k, hk, rfl, hp⟩), by omega, hn'⟩

/-- **no step exceeding the threshold remains inside a part**: between two consecutive cuts
`a < b` every step `k → k+1` with `a ≤ k`, `k + 1 < b` is `≤ thr` -/
theorem split_no_big_step_inside (thr : Rat) (steps : List Rat) (n : Nat) (hn : steps.length < n)
    (a b : Nat) (hab : (a, b) ∈ List.zip (cutsOf thr steps n) (cutsOf thr steps n).tail)
    (k : Nat) (hk : k < steps.length) (hak : a ≤ k) (hkb : k + 1 < b) : steps[k] ≤ thr := by
  by_contra hgt
  -- otherwise `k + 1` is a cut strictly between the consecutive cuts `a` and `b`
  have hmem : k + 1 ∈ cutsOf thr steps n := (mem_cutsOf thr steps n _).mpr (.inr (.inl ⟨k, hk, rfl, not_le.mp hgt⟩))
  exact no_mem_between_consecutive _ (cutsOf_pairwise thr steps n hn) a b hab (k + 1) hmem
    ⟨by omega, hkb⟩

/-- `split_concat` for `split_time_gaps`; `splitDist_concat`, `splitSpeed_concat` are the same for the other two
splitters -/
theorem splitTime_concat {α} (tr : List (Rat × α)) (dt : Rat) :
    (slices tr (splitTimeCuts (tr.map Prod.fst) dt)).flatten = tr := by
  unfold splitTimeCuts
  have := split_concat tr dt (adjDiffs (tr.map Prod.fst)) (by rw [adjDiffs_length]; simp)
  simpa using this

theorem splitDist_concat {α} (l : List α) (lens : List Rat) (thr : Rat) (h : l.length = lens.length + 1) :
    (slices l (splitDistCuts lens thr)).flatten = l := by
  unfold splitDistCuts
  rw [← h]
  exact split_concat l thr lens (by omega)

/-- F17: in exact arithmetic, thresholding the differences of the accumulated path length (what `_jumps` did before
the repair) and thresholding the step lengths (what it does now) are the same function - the defect was float64
rounding of the accumulated length only, and the repair changes nothing else. -/
theorem splitDist_acc_formulation_agrees (lens : List Rat) (thr : Rat) :
    splitDistCutsAcc lens thr = splitDistCuts lens thr := by
  unfold splitDistCutsAcc splitDistCuts accDist
  rw [adjDiffs_accFrom]

theorem splitSpeed_concat {α} (tr : List (Rat × α)) (lens : List Rat) (vmax : Rat) (cuts : List Nat)
    (hl : lens.length = tr.length - 1)
    (h : splitSpeedCuts lens (tr.map Prod.fst) vmax = .ok cuts) :
    (slices tr cuts).flatten = tr := by
  unfold splitSpeedCuts at h
  simp only [List.length_map] at h
  split_ifs at h with hlt
  · injection h with h; subst h
    simp [slices, slice]
  · split at h
    · cases h
    · rename_i v hv
      injection h with h; subst h
      refine split_concat tr vmax v ?_
      rw [speedsGo_length _ _ _ hv, adjDiffs_length, List.length_map, hl, Nat.min_self]

/-- the order applied by `merge` is a permutation of all concatenated indices -/
theorem merge_order_perm (s : List Rat) : (argsortStable s).Perm (List.range s.length) :=
  argsortStable_perm s

/-- **merging yields the time-sorted …** -/
theorem merge_sorted {P Q} (ts : List (Traj P Q)) : (mergeTraj ts).stamps.Pairwise (· ≤ ·) := by
  show (reduceIds _ (argsortStable _)).Pairwise _
  rw [reduceIds_argsort]
  exact List.pairwise_map.mpr (pairwise_mergeSort_key Prod.fst _)

/-- **… in which every pose keeps its own timestamp**: the merged (stamp, position, orientation)
triples are the concatenated triples selected by one and the same index list -/
theorem merge_keeps_triples {P Q} (ts : List (Traj P Q))
    (h1 : (concatTraj ts).stamps.length = (concatTraj ts).xyz.length)
    (h2 : (concatTraj ts).xyz.length = (concatTraj ts).quat.length) :
    List.zip (mergeTraj ts).stamps (List.zip (mergeTraj ts).xyz (mergeTraj ts).quat)
      = reduceIds (List.zip (concatTraj ts).stamps (List.zip (concatTraj ts).xyz (concatTraj ts).quat))
          (argsortStable (concatTraj ts).stamps) := by
  unfold mergeTraj
  simp only
  rw [reduceIds_zip3 _ _ _ _ h1 h2]

/-- **… union**: the merged triples are a permutation of all input triples -/
theorem merge_perm {P Q} (ts : List (Traj P Q))
    (h1 : (concatTraj ts).stamps.length = (concatTraj ts).xyz.length)
    (h2 : (concatTraj ts).xyz.length = (concatTraj ts).quat.length) :
    (List.zip (mergeTraj ts).stamps (List.zip (mergeTraj ts).xyz (mergeTraj ts).quat)).Perm
      (List.zip (concatTraj ts).stamps (List.zip (concatTraj ts).xyz (concatTraj ts).quat)) := by
  rw [merge_keeps_triples ts h1 h2]
  refine reduceIds_perm _ _ ?_
  rw [List.length_zip, List.length_zip, ← h2, ← h1, Nat.min_self, Nat.min_self]
  exact argsortStable_perm _

/-- **all of these preserve the relative order of the kept poses**: a selection by strictly
increasing ids is a sublist of the input -/
theorem selection_preserves_order {α} (l : List α) (ids : List Nat) (h : ids.Pairwise (· < ·)) :
    (reduceIds l ids).Sublist l := reduceIds_sublist l ids h

/-- **… and keep pose, orientation and timestamp of each kept pose together**: applying the ids to
the three parallel arrays (as `reduce_to_ids` does) is the same as selecting whole triples -/
theorem selection_keeps_pose_quat_stamp_together {α β γ} (xyz : List α) (quat : List β) (stamps : List γ)
    (ids : List Nat) (h1 : xyz.length = quat.length) (h2 : quat.length = stamps.length) :
    List.zip (reduceIds xyz ids) (List.zip (reduceIds quat ids) (reduceIds stamps ids))
      = reduceIds (List.zip xyz (List.zip quat stamps)) ids :=
  (reduceIds_zip3 xyz quat stamps ids h1 h2).symm

/-! ### non-vacuity: the hypotheses above are met by concrete non-trivial instances -/

/-- the rounding hypothesis is satisfiable (exact arithmetic satisfies it) -/
example : F64Rounding id := ⟨fun x hx _ => by simp only [id, sub_self, abs_zero]; positivity, fun _ _ => rfl⟩

example : linspaceIds 10 4 = [0, 3, 6, 9] := by decide +kernel
example : linspaceIds 31 23 =
    [0, 1, 2, 4, 5, 6, 8, 9, 10, 12, 13, 14, 16, 17, 19, 20, 21, 23, 24, 25, 27, 28, 30] := by decide +kernel
example : InEnvelope 30 22 11 14 := Or.inr ⟨by decide, by decide, by decide⟩
example : (3 : Nat) * (5000 - 1) * (5000 - 1) < 2 ^ 53 := by decide
example : downsample [10, 11, 12, 13, 14, 15, 16] 3 = .ok [10, 13, 16] := by decide +kernel
example : motionFilter [5, 5, 5, 0, 5] (fun _ _ => 0) 10 1 = .ok [0, 2, 5] := by decide +kernel
example : motionFilter [1, 1, 1] (fun j i => if j = 0 ∧ i = 2 then 2 else 0) 10 2 = .ok [0, 2] := by
  decide +kernel
example : motionFilterSteps [3, 4, 5] (fun _ _ => 0) 7 1 = .ok [0, 2] := by decide +kernel
example : motionFilterSteps [5, 5, 5, 0, 5] (fun _ _ => 0) 10 1 = .ok [0, 2, 5] := by decide +kernel
example : IsLastKeptBefore [0, 2, 5] 2 4 := ⟨by decide, by decide, by decide⟩
example : cropIds [0, 1, 2, 3, 4] (some 1) (some 3) = .ok [1, 2, 3] := by decide +kernel
example : cropIds [0, 1, 2, 3, 4] none (some 2) = .ok [0, 1, 2] := by decide +kernel
example : cropIds [0, 1, 2] (some 2) (some 1) = .error .traj := by decide +kernel
example : splitTimeCuts [0, 1, 3, 4, 9] 1 = [0, 2, 4, 5] := by decide +kernel
example : slices [10, 11, 12, 13, 14] (splitTimeCuts [0, 1, 3, 4, 9] 1) = [[10, 11], [12, 13], [14]] := by
  decide +kernel
example : splitDistCuts [5, 10, 5] 5 = [0, 2, 4] := by decide +kernel
example : splitSpeedCuts [5, 10] [0, 1, 2] 7 = .ok [0, 2, 3] := by decide +kernel
example : (mergeTraj [(⟨[0, 2, 4], [10, 11, 12], [20, 21, 22]⟩ : Traj Nat Nat), ⟨[1, 2, 3], [13, 14, 15], [23, 24, 25]⟩]).xyz
    = [10, 13, 11, 14, 15, 12] := by
  norm_num [mergeTraj, concatTraj, argsortStable, reduceIds, List.mergeSort,
    List.MergeSort.Internal.splitInTwo, List.merge, List.zipIdx]
  decide

end Evo.C11
