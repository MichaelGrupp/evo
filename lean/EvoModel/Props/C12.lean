/-
C12 — a metric result is self-consistent: statistics, companion arrays, unit.
Property theorems about `Evo.Stats` (model of `evo/core/metrics.py` statistics / `change_unit` /
`get_result`, and of the result bookkeeping of `main_ape.ape`, `main_rpe.rpe`) and about the
regenerated tables `Gen/Units.lean`.

`rmse` and `std` are irrational in general. Over ℚ the theorems speak about their squares
(`meanSq = rmse²`, `var = std²`) and about *any* non-negative `r` with `r * r = meanSq`; the real-valued
layer at the end states the same literally for `rmseR = √meanSq`, `stdR = √var` (`Lemmas/StatsReal.lean`).
-/
import EvoModel.Lemmas.Stats
import EvoModel.Lemmas.StatsReal
import EvoModel.Lemmas.ReduceIds
namespace Evo.C12
open Evo Evo.Stats Evo.Gen.Units

/-- **sse = sum(e²), rmse² = mean(e²)**: `sse = n · rmse²` -/
theorem sse_eq_n_mul_meanSq (l : List Rat) (h : l ≠ []) : sse l = (l.length : Rat) * meanSq l := by
  have hn := length_pos_cast h
  unfold meanSq
  field_simp

/-- **rmse² = mean² + std²** -/
theorem rmse_sq_eq_mean_sq_add_var (l : List Rat) (h : l ≠ []) :
    meanSq l = mean l * mean l + var l := by
  have hn := length_pos_cast h
  have hne : (l.length : Rat) ≠ 0 := ne_of_gt hn
  have hdev := sum_sq_dev (mean l) l
  simp only [var, meanSq, sse, List.length_map] at hdev ⊢
  rw [hdev]
  unfold mean
  field_simp
  ring

/-- `mean² ≤ rmse²` -/
theorem mean_sq_le_meanSq (l : List Rat) (h : l ≠ []) : mean l * mean l ≤ meanSq l := by
  have := rmse_sq_eq_mean_sq_add_var l h
  have := var_nonneg l
  linarith

/-- **mean ≤ rmse** for the non-negative root `r` of `rmse²` -/
theorem mean_le_rmse (l : List Rat) (h : l ≠ []) (r : Rat) (hr : 0 ≤ r) (hrr : r * r = meanSq l) :
    mean l ≤ r :=
  nonneg_le_nonneg_of_sq_le_sq hr (hrr ▸ mean_sq_le_meanSq l h)

/-- **min ≤ mean** -/
theorem min_le_mean (l : List Rat) (h : l ≠ []) : minL l ≤ mean l := by
  have hn := length_pos_cast h
  have := sum_ge_of_forall_ge (minL l) l (fun x hx => minL_le hx)
  unfold mean
  rw [le_div_iff₀ hn]
  exact this

theorem mean_le_max (l : List Rat) (h : l ≠ []) : mean l ≤ maxL l := by
  have hn := length_pos_cast h
  have := sum_le_of_forall_le (maxL l) l (fun x hx => le_maxL hx)
  unfold mean
  rw [div_le_iff₀ hn]
  exact this

/-- `rmse² ≤ max²` for error values ≥ 0 -/
theorem meanSq_le_max_sq (l : List Rat) (h : l ≠ []) (hpos : ∀ x ∈ l, 0 ≤ x) :
    meanSq l ≤ maxL l * maxL l := by
  have hn := length_pos_cast h
  have hb : sse l ≤ (maxL l * maxL l) * (l.length : Rat) := by
    have := sum_le_of_forall_le (maxL l * maxL l) (l.map fun x => x * x) (by
      intro y hy
      obtain ⟨x, hx, rfl⟩ := List.mem_map.mp hy
      exact mul_self_le_mul_self (hpos x hx) (le_maxL hx))
    simpa [sse] using this
  unfold meanSq
  rw [div_le_iff₀ hn]
  exact hb

/-- **rmse ≤ max** for error values ≥ 0 -/
theorem rmse_le_max (l : List Rat) (h : l ≠ []) (hpos : ∀ x ∈ l, 0 ≤ x) (r : Rat)
    (hrr : r * r = meanSq l) : r ≤ maxL l :=
  nonneg_le_nonneg_of_sq_le_sq (hpos _ (maxL_mem h)) (hrr ▸ meanSq_le_max_sq l h hpos)

/-- **min ≤ mean ≤ rmse ≤ max** -/
theorem min_le_mean_le_rmse_le_max (l : List Rat) (h : l ≠ []) (hpos : ∀ x ∈ l, 0 ≤ x) (r : Rat)
    (hr : 0 ≤ r) (hrr : r * r = meanSq l) : minL l ≤ mean l ∧ mean l ≤ r ∧ r ≤ maxL l :=
  ⟨min_le_mean l h, mean_le_rmse l h r hr hrr, rmse_le_max l h hpos r hrr⟩

/-- the median is the middle of the *sorted permutation* of the values -/
theorem median_sorted_permutation (l : List Rat) :
    (sort l).Perm l ∧ (sort l).Pairwise (· ≤ ·) ∧
    median l = (if l.length % 2 = 1 then (sort l).getD (l.length / 2) 0
                else ((sort l).getD (l.length / 2 - 1) 0 + (sort l).getD (l.length / 2) 0) / 2) := by
  refine ⟨sort_perm l, sort_sorted l, ?_⟩
  simp only [median, sort_length]

/-- **min ≤ median ≤ max** -/
theorem min_le_median_le_max (l : List Rat) (h : l ≠ []) : minL l ≤ median l ∧ median l ≤ maxL l := by
  have hn : 0 < l.length := List.length_pos_of_ne_nil h
  rw [(median_sorted_permutation l).2.2]
  split
  · exact sort_getD_bounds (Nat.div_lt_self hn (by omega))
  · have h1 := sort_getD_bounds (l := l) (i := l.length / 2 - 1) (by omega)
    have h2 := sort_getD_bounds (l := l) (i := l.length / 2) (Nat.div_lt_self hn (by omega))
    constructor
    · rw [le_div_iff₀ (by norm_num : (0 : Rat) < 2)]; linarith [h1.1, h2.1]
    · rw [div_le_iff₀ (by norm_num : (0 : Rat) < 2)]; linarith [h1.2, h2.2]

/-- min and max are attained and bound every value -/
theorem min_max_are_extremal_values (l : List Rat) (h : l ≠ []) :
    minL l ∈ l ∧ maxL l ∈ l ∧ ∀ x ∈ l, minL l ≤ x ∧ x ≤ maxL l :=
  ⟨minL_mem h, maxL_mem h, fun _ hx => ⟨minL_le hx, le_maxL hx⟩⟩

/-- constant arrays (in particular a single value): mean = min = max, std = 0, rmse² = c² -/
theorem constant_array (l : List Rat) (hne : l ≠ []) (c : Rat) (hmem : ∀ x ∈ l, x = c) :
    mean l = c ∧ minL l = c ∧ maxL l = c ∧ var l = 0 ∧ meanSq l = c * c := by
  have hmin : minL l = c := hmem _ (minL_mem hne)
  have hmax : maxL l = c := hmem _ (maxL_mem hne)
  have hmean : mean l = c := by
    have h1 := min_le_mean l hne
    have h2 := mean_le_max l hne
    rw [hmin] at h1; rw [hmax] at h2
    exact le_antisymm h2 h1
  have hvar : var l = 0 := (var_eq_zero_iff l hne).mpr fun x hx => by rw [hmem x hx, hmean]
  exact ⟨hmean, hmin, hmax, hvar, by rw [rmse_sq_eq_mean_sq_add_var l hne, hvar, hmean, add_zero]⟩

/-- the conversions the property statement allows: both length, both angle, or no change -/
def Allowed (u v : U) : Prop := (u ∈ lengthUnits ∧ v ∈ lengthUnits) ∨ (u ∈ angleUnits ∧ v ∈ angleUnits) ∨ u = v

instance (u v : U) : Decidable (Allowed u v) := by unfold Allowed; infer_instance

/-- value of one unit in the base unit of its kind (metre, radian), written down from the
property statement: mm, cm, m, km; deg = π/180 rad -/
def toBase : U → Factor
  | .millimeters => ⟨(1 : Rat) / 1000, 0⟩
  | .centimeters => ⟨(1 : Rat) / 100, 0⟩
  | .meters => ⟨1, 0⟩
  | .kilometers => ⟨1000, 0⟩
  | .degrees => ⟨(1 : Rat) / 180, 1⟩
  | .radians => ⟨1, 0⟩
  | _ => ⟨1, 0⟩

/-- **conversions between angle and length, or of unit-less / percent / frame / second
quantities, are refused; all others are carried out** (complete 10 × 10 matrix) -/
theorem convert_allowed_iff : ∀ u ∈ U.all, ∀ v ∈ U.all, ((factor u v).isSome ↔ Allowed u v) := by
  decide +kernel

/-- **the exact conversion factor**: `factor u v = toBase u / toBase v` -/
theorem factor_def : ∀ u ∈ U.all, ∀ v ∈ U.all, Allowed u v → factor u v = some ((toBase u).div (toBase v)) := by
  decide +kernel

theorem factor_self : ∀ u ∈ U.all, factor u u = some Factor.one := fun _ _ => if_pos rfl

theorem factor_isSome_iff (u v : U) : (factor u v).isSome ↔ Allowed u v :=
  convert_allowed_iff u (U.mem_all u) v (U.mem_all v)

/-- `factor_comp` over the 1000 unit triples -/
theorem factor_comp_table : ∀ u ∈ U.all, ∀ v ∈ U.all, ∀ w ∈ U.all, ∀ f ∈ factor u v, ∀ g ∈ factor v w,
    factor u w = some (f.mul g) := by
  decide +kernel

/-- converting `u → v → w` is converting `u → w` -/
theorem factor_comp (u v w : U) (f g : Factor) (h1 : factor u v = some f) (h2 : factor v w = some g) :
    factor u w = some (f.mul g) :=
  factor_comp_table u (U.mem_all u) v (U.mem_all v) w (U.mem_all w) f h1 g h2

/-- the table `METER_SCALE_FACTORS` in the source says what the statement says -/
theorem meter_factors_table :
    meterFactor .millimeters = some ((1 : Rat) / 1000) ∧ meterFactor .centimeters = some ((1 : Rat) / 100) ∧
    meterFactor .meters = some 1 ∧ meterFactor .kilometers = some 1000 ∧
    ∀ u ∈ U.all, ((meterFactor u).isSome ↔ u ∈ lengthUnits) := by
  decide +kernel

/-- the model of `change_unit` behaves, on all 100 ordered unit pairs, like the outcome
observed by *running* `PE.change_unit` (table regenerated on every run) -/
theorem model_matches_observed : ∀ u ∈ U.all, ∀ v ∈ U.all, classify u v = observed u v := by
  decide +kernel

/-- an allowed conversion multiplies every value by the factor and updates the unit -/
theorem change_unit_scales (pe : PE) (v : U) (f : Factor) (hne : pe.error ≠ []) (huv : pe.unit ≠ v)
    (hf : factor pe.unit v = some f) :
    changeUnit pe v = some { unit := v, error := pe.error.map (fun x => f.q * x), piPow := pe.piPow + f.piPow } := by
  unfold changeUnit
  rw [if_neg huv, hf]
  simp [List.isEmpty_eq_false_iff.mpr hne]

/-- **refused conversions leave unit and values untouched** (`none` = exception, the object
keeps its state) and a conversion to the same unit is the identity -/
theorem refused_leaves_values (pe : PE) (v : U) :
    (¬ Allowed pe.unit v → changeUnit pe v = none) ∧ (pe.unit = v → changeUnit pe v = some pe) := by
  constructor
  · intro hna
    have hnone : factor pe.unit v = none :=
      Option.not_isSome_iff_eq_none.mp fun hs => hna ((factor_isSome_iff _ _).mp hs)
    have hne : pe.unit ≠ v := fun e => hna (Or.inr (Or.inr e))
    unfold changeUnit
    rw [if_neg hne, hnone]
  · intro e
    unfold changeUnit
    rw [if_pos e]

/-- `change_unit` either fails or yields exactly: unit = requested unit, values scaled by the
factor of the table -/
theorem change_unit_result (pe pe' : PE) (v : U) (h : changeUnit pe v = some pe') :
    pe'.unit = v ∧ ∃ f, factor pe.unit v = some f ∧ pe'.error = pe.error.map (fun x => f.q * x) ∧
      pe'.piPow = pe.piPow + f.piPow := by
  unfold changeUnit at h
  split at h
  · next e =>
    cases h
    refine ⟨e, Factor.one, ?_, ?_, ?_⟩
    · rw [e]; exact factor_self v (U.mem_all v)
    · simp [Factor.one]
    · simp [Factor.one]
  · split at h
    · cases h
    · next f hf =>
      split at h
      · cases h
      · cases h
        exact ⟨rfl, f, hf, rfl, rfl⟩

/-- which unit each pose relation is measured in (APE and RPE) -/
theorem relation_units :
    apeUnit .translation_part = .meters ∧ apeUnit .point_distance = .meters ∧
    apeUnit .rotation_angle_deg = .degrees ∧ apeUnit .rotation_angle_rad = .radians ∧
    apeUnit .rotation_part = .none ∧ apeUnit .full_transformation = .none ∧
    rpeUnit .point_distance_error_ratio = .percent ∧
    ∀ r ∈ Rel.all, r ≠ .point_distance_error_ratio → rpeUnit r = apeUnit r := by
  decide +kernel

/-- the unit after the optional `change_unit` of `ape()` / `rpe()` -/
theorem unit_after_change (pe0 p : PE) (chg : Option U)
    (h : (match chg with | none => some pe0 | some v => changeUnit pe0 v) = some p) :
    (chg = none → p.unit = pe0.unit) ∧
    (∀ v, chg = some v → p.unit = v ∧ (v ≠ pe0.unit → Allowed pe0.unit v)) := by
  cases chg with
  | none => cases h; exact ⟨fun _ => rfl, fun _ hv => nomatch hv⟩
  | some v =>
    obtain ⟨hu, f, hf, _, _⟩ := change_unit_result _ _ _ h
    refine ⟨fun hv => (nomatch hv), fun w hw => ?_⟩
    cases hw
    exact ⟨hu, fun _ => (factor_isSome_iff _ _).mp (by rw [hf]; rfl)⟩

/-- **label and title name the metric, the pose relation and the unit the values are in**:
whatever `--change_unit` asks for, a returned result carries the unit its values were
converted to, in the label and in the title. -/
theorem label_names_metric_and_unit (rel : Rel) (chg : Option U) (probe : List Rat) (nm : Naming)
    (h : apeNaming rel chg probe = some nm) :
    nm.label = "APE" ++ " (" ++ nm.unit.value ++ ")" ∧
    nm.titleHead = "APE w.r.t. " ++ rel.value ++ " " ++ "(" ++ nm.unit.value ++ ")" ∧
    (chg = none → nm.unit = apeUnit rel) ∧
    (∀ v, chg = some v → nm.unit = v ∧ (v ≠ apeUnit rel → Allowed (apeUnit rel) v)) := by
  obtain ⟨p, hp, rfl⟩ := Option.map_eq_some_iff.mp h
  exact ⟨rfl, rfl, unit_after_change _ p chg hp⟩

theorem rpe_label_names_metric_and_unit (rel : Rel) (chg : Option U) (probe : List Rat) (d : String)
    (du : U) (ap : Bool) (nm : Naming) (h : rpeNaming rel chg probe d du ap = some nm) :
    nm.label = "RPE" ++ " (" ++ nm.unit.value ++ ")" ∧
    nm.titleHead = rpeTitle rel nm.unit d du ap ∧
    (chg = none → nm.unit = rpeUnit rel) ∧
    (∀ v, chg = some v → nm.unit = v ∧ (v ≠ rpeUnit rel → Allowed (rpeUnit rel) v)) := by
  obtain ⟨p, hp, rfl⟩ := Option.map_eq_some_iff.mp h
  exact ⟨rfl, rfl, unit_after_change _ p chg hp⟩

/-- repaired `change_unit`: every array that existed before still holds the same values
(in particular the one an earlier `get_result()` refers to), for any heap and any units -/
theorem earlier_result_unchanged (h : Heap) (pe : PEObj) (v : U) (a : Nat) (ha : a < h.length) :
    (changeUnitH h pe v).1.getD a [] = h.getD a [] := by
  unfold changeUnitH
  split
  · rfl
  · split
    · rfl
    · split
      · rfl
      · simp only [List.getD_eq_getElem?_getD]
        rw [List.getElem?_append_left ha]

/-- the pinned code (before fix 06bb385): after `get_result(); change_unit(mm)` the earlier
result labelled "APE (m)" holds the values in millimetres -/
theorem f11_counterexample :
    let h0 : Heap := [[1, 2]]
    let pe0 : PEObj := ⟨.meters, 0⟩
    let res := getResultH "APE" pe0
    res.label = "APE (m)" ∧
    (changeUnitHOld h0 pe0 .millimeters).1.getD res.addr [] = [1000, 2000] ∧
    (changeUnitH h0 pe0 .millimeters).1.getD res.addr [] = [1, 2] := by
  decide +kernel

/-- **each evaluation is named after its own data**: after `process_data` the object holds the
fresh values under the relation's native unit, whatever happened to the object before (earlier
evaluations, unit changes); a result taken now is labelled with that unit, and a following
`change_unit` starts from it. -/
theorem reprocess_names_native_unit (native : U) (pe : PE) (vals : List Rat) :
    (processData native pe vals).unit = native ∧ (processData native pe vals).error = vals ∧
    (processData native pe vals).piPow = 0 ∧
    metricLabel "APE" (processData native pe vals).unit = "APE" ++ " (" ++ native.value ++ ")" ∧
    ∀ v, changeUnit (processData native pe vals) v = changeUnit { unit := native, error := vals } v :=
  ⟨rfl, rfl, rfl, rfl, fun _ => rfl⟩

/-- **a refused batch leaves the object as it was**: unit and values stay together — the label
still names the unit the kept values are in, and a following `change_unit` converts them once. -/
theorem refused_process_keeps_unit_and_values (native : U) (pe : PE) :
    processBatch native pe none = pe ∧
    metricLabel "APE" (processBatch native pe none).unit = metricLabel "APE" pe.unit ∧
    ∀ v, changeUnit (processBatch native pe none) v = changeUnit pe v :=
  ⟨rfl, rfl, fun _ => rfl⟩

theorem accepted_process_is_reset (native : U) (pe : PE) (vals : List Rat) :
    processBatch native pe (some vals) = { unit := native, error := vals, piPow := 0 } := rfl

/-- resetting the unit *before* the batch is checked (seeded change C12-5) breaks it: good batch,
`change_unit(cm)`, refused batch — the object would report metres over centimetre values, and
converting "to centimetres" would scale a second time -/
theorem early_reset_counterexample :
    let pe1 : PE := { unit := .centimeters, error := [100] }      -- 1 m after change_unit(cm)
    let early : PE := { pe1 with unit := .meters }                -- unit reset, then the batch is refused
    processBatch .meters pe1 none = pe1 ∧
    metricLabel "APE" early.unit = "APE (m)" ∧ early.error = [100] ∧
    changeUnit early .centimeters = some { unit := .centimeters, error := [10000] } := by
  decide +kernel

/-- **the pinned code (before fix 46322c3)**: `process_data; change_unit(mm); process_data;
get_result` — the second evaluation's values are the fresh ones, in metres, but the object still
said millimetres, so the label read "APE (mm)" over metre values (and a later `change_unit(m)`
divided them by 1000). The repaired model names metres. -/
theorem metric_reuse_keeps_converted_unit_counterexample :
    let pe0 : PE := { unit := apeUnit .translation_part, error := [1] }
    let pe1 := (changeUnit pe0 .millimeters).getD pe0
    let pe2 := processDataOld pe1 [2]
    pe1 = { unit := .millimeters, error := [1000] } ∧
    pe2 = { unit := .millimeters, error := [2] } ∧ metricLabel "APE" pe2.unit = "APE (mm)" ∧
    changeUnit pe2 .meters = some { unit := .meters, error := [1 / 500] } ∧
    processData (apeUnit .translation_part) pe1 [2] = { unit := .meters, error := [2] } := by
  decide +kernel

/-- **APE: every companion array has exactly one entry per pose (= per error value)**;
`distances` has one entry per stored pose (`refStepSq.length + 1`) -/
theorem ape_companions_length (ts : List Rat) (pr pe : List (V3 Rat)) (hn : 0 < ts.length)
    (hr : pr.length = ts.length) (he : pe.length = ts.length) :
    let c := apeResultArrays ts pr pe
    c.seconds.length = ts.length ∧ c.timestamps.length = ts.length ∧ c.poseOf.length = ts.length ∧
    c.stored.length = ts.length ∧ c.refStepSq.length + 1 = ts.length ∧ c.estStepSq.length + 1 = ts.length ∧
    c.skip = 0 := by
  have h1 : (stepSq pr).length + 1 = ts.length := by rw [stepSq_length, hr]; omega
  have h2 : (stepSq pe).length + 1 = ts.length := by rw [stepSq_length, he]; omega
  exact ⟨secondsFromStart_length ts, rfl, List.length_range, List.length_range, h1, h2, rfl⟩

/-- **APE: entry `k` refers to pose `k`** -/
theorem ape_companions_refer_to_pose (ts : List Rat) (pr pe : List (V3 Rat)) (k : Nat) (hk : k < ts.length) :
    let c := apeResultArrays ts pr pe
    c.poseOf[k]? = some k ∧ c.stored[k]? = some k ∧ c.timestamps[k]? = some ts[k] ∧
    c.seconds[k]? = some (ts[k] - ts[0]'(by omega)) := by
  have h0 : 0 < ts.length := by omega
  refine ⟨by simp [apeResultArrays, hk], by simp [apeResultArrays, hk], by simp [apeResultArrays, hk], ?_⟩
  exact secondsFromStart_getElem? ts k _ _ (List.getElem?_eq_getElem h0) (List.getElem?_eq_getElem hk)

/-- **the trajectories stored by `rpe()` are the processed ones restricted to the first pose
and the pair end poses** (for any per-pose data, e.g. the pose matrices) -/
theorem stored_traj_is_processed_one {α} (traj : List α) (ids : List Nat) (hn : 0 < traj.length)
    (hv : ∀ i ∈ ids, i < traj.length) :
    (reduceIds traj (0 :: ids)).length = ids.length + 1 ∧
    (reduceIds traj (0 :: ids))[0]? = some traj[0] ∧
    ∀ k (hk : k < ids.length), (reduceIds traj (0 :: ids))[k + 1]? = some (traj[ids[k]]'(hv _ (List.getElem_mem hk))) := by
  have hv' : ∀ i ∈ 0 :: ids, i < traj.length := List.forall_mem_cons.mpr ⟨hn, hv⟩
  have hget := reduceIds_getElem traj (0 :: ids) hv'
  refine ⟨by simpa using reduceIds_length traj _ hv', (hget 0 (Nat.succ_pos _)).trans (List.getElem?_eq_getElem hn),
    fun k hk => ?_⟩
  rw [hget (k + 1) (Nat.succ_lt_succ hk), List.getElem_cons_succ, List.getElem?_eq_getElem]

/-- **RPE: every companion array has exactly one entry per pair (= per error value)**,
for any list of pair end indices (every pairing mode, also after the zero-distance filter) -/
theorem rpe_companions_length (ts : List Rat) (pr pe : List (V3 Rat)) (ids : List Nat)
    (hn : 0 < ts.length) (hr : pr.length = ts.length) (he : pe.length = ts.length)
    (hv : ∀ i ∈ ids, i < ts.length) :
    let c := rpeResultArrays ts pr pe ids
    c.seconds.length = ids.length ∧ c.timestamps.length = ids.length ∧ c.poseOf.length = ids.length ∧
    c.stored.length = ids.length + 1 ∧ c.refStepSq.length = ids.length ∧ c.estStepSq.length = ids.length := by
  have hv' : ∀ i ∈ 0 :: ids, i < ts.length := List.forall_mem_cons.mpr ⟨hn, hv⟩
  simp [rpeResultArrays, secondsFromStart_length, stepSq_length, reduceIds_length ts _ hv',
    reduceIds_length pr _ (hr ▸ hv'), reduceIds_length pe _ (he ▸ hv')]

/-- **RPE: entry `k` refers to the end pose of pair `k`** — its timestamp, its time since the
first pose; and the stored trajectory is pose 0 followed by the pair end poses -/
theorem rpe_companions_refer_to_pose (ts : List Rat) (pr pe : List (V3 Rat)) (ids : List Nat)
    (hn : 0 < ts.length) (hv : ∀ i ∈ ids, i < ts.length) (k : Nat) (hk : k < ids.length) :
    let c := rpeResultArrays ts pr pe ids
    c.poseOf[k]? = some ids[k] ∧
    c.stored[k + 1]? = some ids[k] ∧ c.stored[0]? = some 0 ∧
    c.timestamps[k]? = some (ts[ids[k]]'(hv _ (List.getElem_mem hk))) ∧
    c.seconds[k]? = some (ts[ids[k]]'(hv _ (List.getElem_mem hk)) - ts[0]) := by
  obtain ⟨_, h0, hk1⟩ := stored_traj_is_processed_one ts ids hn hv
  simp only [rpeResultArrays, List.tail_cons]
  refine ⟨by simp [hk], by simp [hk], by simp, ?_, ?_⟩
  · rw [List.getElem?_tail, hk1 k hk]
  · rw [List.getElem?_tail]
    exact secondsFromStart_getElem? _ (k + 1) _ _ h0 (hk1 k hk)

/-- **zero-distance filter of the ratio relation**: ids and values stay aligned — the kept
`(id, value)` pairs are exactly those of the pairs with non-zero reference distance, in order -/
theorem ratio_filter_aligned (r e : List Rat) (ids : List Nat) :
    (ratioFilter r e ids).1.length = (ratioFilter r e ids).2.length ∧
    List.zip (ratioFilter r e ids).1 (ratioFilter r e ids).2 =
      (List.zip r (List.zip e ids)).filterMap
        (fun t => if t.1 = 0 then none else some (t.2.2, absR (t.1 - t.2.1) / t.1 * 100)) := by
  induction r generalizing e ids with
  | nil => simp [ratioFilter]
  | cons a r ih =>
    cases e with
    | nil => simp [ratioFilter]
    | cons b e =>
      cases ids with
      | nil => simp [ratioFilter]
      | cons j ids =>
        obtain ⟨h1, h2⟩ := ih e ids
        simp only [ratioFilter, List.zip_cons_cons, List.filterMap_cons]
        by_cases ha : a = 0
        · simp only [ha, if_true]
          exact ⟨h1, h2⟩
        · simp only [ha, if_false, List.length_cons, List.zip_cons_cons]
          exact ⟨by rw [h1], by rw [h2]⟩

/-! ## non-vacuity: the hypotheses are satisfiable on concrete, non-trivial instances -/

example : median [3, 1, 2, 6] = 5 / 2 := by
  simp only [median, sort_example]; decide +kernel
example : (meanSq [1, 2, 3, 6], mean [1, 2, 3, 6], var [1, 2, 3, 6], minL [1, 2, 3, 6], maxL [1, 2, 3, 6], sse [1, 2, 3, 6])
    = (25 / 2, 3, 7 / 2, 1, 6, 50) := by decide +kernel
example : ([3, 1, 2] : List Rat) ≠ [] ∧ (∀ x ∈ ([3, 1, 2] : List Rat), 0 ≤ x) := by decide +kernel
example : ∃ r : Rat, 0 ≤ r ∧ r * r = meanSq [3, 4, 5, 0, 0, 0, 0, 0] := ⟨5 / 2, by decide +kernel⟩
example : Allowed .millimeters .kilometers ∧ ¬ Allowed .meters .degrees ∧ ¬ Allowed .percent .none := by decide
example : changeUnit { unit := .radians, error := [1, 1 / 2] } .degrees
    = some { unit := .degrees, error := [180, 90], piPow := -1 } := by decide +kernel
example : changeUnit { unit := .meters, error := [1] } .degrees = none := by decide +kernel
example : (rpeResultArrays [10, 11, 12, 13] [⟨0,0,0⟩, ⟨1,0,0⟩, ⟨2,0,0⟩, ⟨4,0,0⟩] [⟨0,0,0⟩, ⟨1,0,0⟩, ⟨2,0,0⟩, ⟨4,0,0⟩] [2, 3])
    = { stored := [0, 2, 3], seconds := [2, 3], timestamps := [12, 13], poseOf := [2, 3],
        refStepSq := [4, 4], estStepSq := [4, 4], skip := 1 } := by decide +kernel
example : ratioFilter [1, 0, 2] [3, 2, 5] [1, 2, 3] = ([1, 3], [200, 150]) := by decide +kernel
example : (apeNaming .translation_part (some .millimeters) [1]).map (·.label) = some "APE (mm)" := by decide +kernel

/-! ## real-valued layer: the literal statement about `rmse` and `std`

`rmseR l = √(mean(e²))` and `stdR l = √(var e)` (`Lemmas/StatsReal.lean`) are the real numbers
`np.sqrt(np.mean(np.power(e, 2)))` and `np.std(e)` for the exact rational values `e`; the other
statistics are rational and are cast to ℝ. -/

/-- **rmse = sqrt(mean(e²))**: `rmse` is the non-negative real number whose square is `mean(e²)` -/
theorem rmse_real_sq (l : List Rat) : rmseR l ^ 2 = ((meanSq l : ℚ) : ℝ) := rmseR_sq l

theorem rmse_real_nonneg (l : List Rat) : 0 ≤ rmseR l := rmseR_nonneg l

/-- **std**: the non-negative real number whose square is the population variance `mean((e − mean e)²)` -/
theorem std_real_sq (l : List Rat) : stdR l ^ 2 = ((var l : ℚ) : ℝ) := stdR_sq l

theorem std_real_nonneg (l : List Rat) : 0 ≤ stdR l := stdR_nonneg l

example : rmseR [3, 4, 5, 0, 0, 0, 0, 0] = 5 / 2 := by
  have h : meanSq [3, 4, 5, 0, 0, 0, 0, 0] = 25 / 4 := by decide +kernel
  rw [rmseR, h, show (((25 / 4 : ℚ)) : ℝ) = (5 / 2) ^ 2 by norm_num, Real.sqrt_sq (by norm_num)]

example : stdR [1, 2, 2, 5] = 3 / 2 := by
  have h : var [1, 2, 2, 5] = 9 / 4 := by decide +kernel
  rw [stdR, h, show (((9 / 4 : ℚ)) : ℝ) = (3 / 2) ^ 2 by norm_num, Real.sqrt_sq (by norm_num)]

example : rmseR [1, 2, 2, 5] ^ 2 = 17 / 2 := by
  have h : meanSq [1, 2, 2, 5] = 17 / 2 := by decide +kernel
  rw [rmse_real_sq, h]; norm_num

/-- **rmse² = mean² + std²**, for the real numbers `rmse`, `std` -/
theorem rmse_sq_eq_mean_sq_add_std_sq_real (l : List Rat) (h : l ≠ []) :
    rmseR l ^ 2 = ((mean l : ℚ) : ℝ) ^ 2 + stdR l ^ 2 := by
  rw [rmse_real_sq, std_real_sq, rmse_sq_eq_mean_sq_add_var l h]
  push_cast
  ring

example : rmseR [1, 2, 2, 5] ^ 2 = ((mean [1, 2, 2, 5] : ℚ) : ℝ) ^ 2 + stdR [1, 2, 2, 5] ^ 2 :=
  rmse_sq_eq_mean_sq_add_std_sq_real _ (by simp)

/-- **sse = sum(e²) = n · rmse²** -/
theorem sse_eq_n_mul_rmse_sq_real (l : List Rat) (h : l ≠ []) :
    ((sse l : ℚ) : ℝ) = (l.length : ℝ) * rmseR l ^ 2 := by
  rw [rmse_real_sq, sse_eq_n_mul_meanSq l h]
  push_cast
  ring

example : ((sse [1, 2, 2, 5] : ℚ) : ℝ) = 34 ∧ ((sse [1, 2, 2, 5] : ℚ) : ℝ) = 4 * rmseR [1, 2, 2, 5] ^ 2 := by
  have h : sse [1, 2, 2, 5] = 34 := by decide +kernel
  refine ⟨by rw [h]; norm_num, ?_⟩
  have := sse_eq_n_mul_rmse_sq_real [1, 2, 2, 5] (by simp)
  simpa using this

/-- **mean ≤ rmse** (no sign condition on the values) -/
theorem mean_le_rmse_real (l : List Rat) (h : l ≠ []) : ((mean l : ℚ) : ℝ) ≤ rmseR l := by
  have hq : ((mean l : ℚ) : ℝ) ^ 2 ≤ ((meanSq l : ℚ) : ℝ) := by
    have := mean_sq_le_meanSq l h
    rw [pow_two]
    exact_mod_cast this
  exact le_trans (le_abs_self _) (Real.abs_le_sqrt hq)

example : ((mean [1, -3] : ℚ) : ℝ) ≤ rmseR [1, -3] := mean_le_rmse_real _ (by simp)

/-- **rmse ≤ max** for error values ≥ 0 -/
theorem rmse_le_max_real (l : List Rat) (h : l ≠ []) (hpos : ∀ x ∈ l, 0 ≤ x) :
    rmseR l ≤ ((maxL l : ℚ) : ℝ) := by
  have hm : (0 : ℝ) ≤ ((maxL l : ℚ) : ℝ) := Rat.cast_nonneg.mpr (hpos _ (maxL_mem h))
  have hq : ((meanSq l : ℚ) : ℝ) ≤ ((maxL l : ℚ) : ℝ) ^ 2 := by
    have := meanSq_le_max_sq l h hpos
    rw [pow_two]
    exact_mod_cast this
  exact Real.sqrt_le_iff.mpr ⟨hm, hq⟩

/-- **min ≤ mean ≤ rmse ≤ max** for the real number `rmse` (error values are ≥ 0) -/
theorem min_le_mean_le_rmse_le_max_real (l : List Rat) (h : l ≠ []) (hpos : ∀ x ∈ l, 0 ≤ x) :
    ((minL l : ℚ) : ℝ) ≤ ((mean l : ℚ) : ℝ) ∧ ((mean l : ℚ) : ℝ) ≤ rmseR l ∧
      rmseR l ≤ ((maxL l : ℚ) : ℝ) :=
  ⟨Rat.cast_le.mpr (min_le_mean l h), mean_le_rmse_real l h, rmse_le_max_real l h hpos⟩

example : (1 : ℝ) ≤ 5 / 2 ∧ (5 / 2 : ℝ) ≤ rmseR [1, 2, 2, 5] ∧ rmseR [1, 2, 2, 5] ≤ 5 := by
  have h := min_le_mean_le_rmse_le_max_real [1, 2, 2, 5] (by simp) (by decide +kernel)
  have h1 : minL [1, 2, 2, 5] = 1 := by decide +kernel
  have h2 : mean [1, 2, 2, 5] = 5 / 2 := by decide +kernel
  have h3 : maxL [1, 2, 2, 5] = 5 := by decide +kernel
  rw [h1, h2, h3] at h
  norm_num at h ⊢
  exact h

/-- **min ≤ median ≤ max**, cast to ℝ (all three are rational) -/
theorem min_le_median_le_max_real (l : List Rat) (h : l ≠ []) :
    ((minL l : ℚ) : ℝ) ≤ ((median l : ℚ) : ℝ) ∧ ((median l : ℚ) : ℝ) ≤ ((maxL l : ℚ) : ℝ) :=
  ⟨Rat.cast_le.mpr (min_le_median_le_max l h).1, Rat.cast_le.mpr (min_le_median_le_max l h).2⟩

/-- **std ≤ rmse** (from `rmse² = mean² + std²`) -/
theorem std_le_rmse_real (l : List Rat) (h : l ≠ []) : stdR l ≤ rmseR l := by
  have hq : var l ≤ meanSq l := by
    have := rmse_sq_eq_mean_sq_add_var l h
    have := mul_self_nonneg (mean l)
    linarith
  exact Real.sqrt_le_sqrt (Rat.cast_le.mpr hq)

example : stdR [1, 2, 2, 5] ≤ rmseR [1, 2, 2, 5] := std_le_rmse_real _ (by simp)

/-- **std = 0 exactly for constant arrays**: every value equals the mean -/
theorem std_real_zero_iff_constant (l : List Rat) (h : l ≠ []) :
    stdR l = 0 ↔ ∀ x ∈ l, x = mean l := by
  rw [stdR_eq_zero_iff, var_eq_zero_iff l h]

/-- constant arrays (in particular a single value): `std = 0` and `rmse = |c|` -/
theorem constant_array_real (l : List Rat) (h : l ≠ []) (c : Rat) (hc : ∀ x ∈ l, x = c) :
    stdR l = 0 ∧ rmseR l = |(c : ℝ)| ∧ ((mean l : ℚ) : ℝ) = c := by
  obtain ⟨hmean, _, _, hvar, hsq⟩ := constant_array l h c hc
  refine ⟨(stdR_eq_zero_iff l).mpr hvar, ?_, by rw [hmean]⟩
  rw [rmseR, hsq]
  push_cast
  exact Real.sqrt_mul_self_eq_abs _

example : stdR [7, 7, 7] = 0 ∧ rmseR [7, 7, 7] = 7 := by
  obtain ⟨h1, h2, _⟩ := constant_array_real [7, 7, 7] (by simp) 7 (by decide +kernel)
  refine ⟨h1, ?_⟩
  rw [h2]; norm_num

example : stdR [1, 2, 2, 5] ≠ 0 := by
  rw [Ne, std_real_zero_iff_constant _ (by simp)]
  decide +kernel

/-- **changing the unit multiplies `rmse` by the conversion factor** -/
theorem rmse_real_scale (l : List Rat) (k : Rat) (hk : 0 ≤ k) :
    rmseR (l.map (k * ·)) = (k : ℝ) * rmseR l := rmseR_map_mul k hk l

/-- **… and `std`** -/
theorem std_real_scale (l : List Rat) (k : Rat) (hk : 0 ≤ k) :
    stdR (l.map (k * ·)) = (k : ℝ) * stdR l := stdR_map_mul k hk l

/-- **… and the rational statistics** `mean`, `median`, `min`, `max` (and `sse` by its square) -/
theorem rational_stats_scale (l : List Rat) (k : Rat) (hk : 0 ≤ k) :
    mean (l.map (k * ·)) = k * mean l ∧ median (l.map (k * ·)) = k * median l ∧
    minL (l.map (k * ·)) = k * minL l ∧ maxL (l.map (k * ·)) = k * maxL l ∧
    sse (l.map (k * ·)) = k * k * sse l :=
  ⟨mean_map_mul k l, median_map_mul k hk l, minL_map_mul k hk l, maxL_map_mul k hk l, sse_map_mul k l⟩

/-- the values `change_unit` installs have the statistics of the old values times the factor
(the rational part `f.q` of the factor; the power of π is carried separately in `piPow`) -/
theorem change_unit_scales_statistics (pe pe' : PE) (v : U) (h : changeUnit pe v = some pe') :
    ∃ f, factor pe.unit v = some f ∧ (0 ≤ f.q → rmseR pe'.error = (f.q : ℝ) * rmseR pe.error ∧
      stdR pe'.error = (f.q : ℝ) * stdR pe.error ∧ mean pe'.error = f.q * mean pe.error) := by
  obtain ⟨_, f, hf, he, _⟩ := change_unit_result pe pe' v h
  refine ⟨f, hf, fun hq => ?_⟩
  rw [he]
  exact ⟨rmse_real_scale _ _ hq, std_real_scale _ _ hq, mean_map_mul _ _⟩

example : rmseR (([3, 4, 5, 0, 0, 0, 0, 0] : List Rat).map ((1000 : Rat) * ·)) = 1000 * rmseR [3, 4, 5, 0, 0, 0, 0, 0] := by
  have := rmse_real_scale [3, 4, 5, 0, 0, 0, 0, 0] 1000 (by norm_num)
  simpa using this

example : (median (([3, 1, 2, 6] : List Rat).map ((1000 : Rat) * ·)), minL (([3, 1, 2, 6] : List Rat).map ((1000 : Rat) * ·)))
    = (2500, 1000) := by
  rw [(rational_stats_scale [3, 1, 2, 6] 1000 (by norm_num)).2.1, (rational_stats_scale [3, 1, 2, 6] 1000 (by norm_num)).2.2.1]
  have h1 : median [3, 1, 2, 6] = 5 / 2 := by simp only [median, sort_example]; decide +kernel
  have h2 : minL [3, 1, 2, 6] = 1 := by decide +kernel
  rw [h1, h2]; norm_num

end Evo.C12
