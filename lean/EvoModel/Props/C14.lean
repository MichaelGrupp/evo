/-
C14 — plane projection (`PosePath3D.project`, `euler_from_matrix(·, "sxyz")`).
Property theorems about `Model/Project.lean`, for every ordered field `K` (ℚ: what the driver
runs; ℝ: every heading, section `real`).  `(c, s)` is the normalised Euler direction, a certified
input of the model (`Dir.IsUnit`), proved to be unique (`dir_unit_unique`).

The property is **false** of the code for the XZ plane and headings beyond ±90°
(`project_xz_counterexample`, finding F1): `project_xz_fixes_planar_partial` covers `cos ≥ 0` only.
-/
import EvoModel.Lemmas.Lie
import EvoModel.Lemmas.Atan2
namespace Evo.C14
open Evo Evo.Project

set_option linter.unusedSectionVars false

section ordered
variable {K : Type} [Field K] [LinearOrder K] [IsStrictOrderedRing K]

/-- `Dir.IsUnit` determines `(c, s)`: the model leaves no freedom in the projected rotation -/
theorem dir_unit_unique (d : Dir K) {c s c' s' : K}
    (h : d.IsUnit c s) (h' : d.IsUnit c' s') : c = c' ∧ s = s' := by
  obtain ⟨h1, h2, h3, h4, h5⟩ := h
  obtain ⟨h1', h2', h3', h4', h5'⟩ := h'
  by_cases hN : d.xsq + d.y * d.y = 0
  · obtain ⟨rfl, rfl⟩ := h5 hN
    obtain ⟨rfl, rfl⟩ := h5' hN
    exact ⟨rfl, rfl⟩
  -- `c² N = xsq` and `s² N = y²` determine the squares; the signs are those of the flag and of `y`
  have hs : s * s * (d.xsq + d.y * d.y) = d.y * d.y := by linear_combination (d.xsq + d.y * d.y) * h1 - h2
  have hs' : s' * s' * (d.xsq + d.y * d.y) = d.y * d.y := by linear_combination (d.xsq + d.y * d.y) * h1' - h2'
  refine ⟨eq_of_mul_self_eq (mul_right_cancel₀ hN (h2.trans h2'.symm)) ?_,
    eq_of_mul_self_eq (mul_right_cancel₀ hN (hs.trans hs'.symm)) ?_⟩
  · split_ifs at h3 h3'
    · exact mul_nonneg_of_nonpos_of_nonpos h3 h3'
    · exact mul_nonneg h3 h3'
  · by_cases hy : d.y = 0
    · have h0 : s * s * (d.xsq + d.y * d.y) = 0 := by rw [hs, hy, mul_zero]
      rw [mul_self_eq_zero.mp ((mul_eq_zero.mp h0).resolve_right hN), zero_mul]
    · have : 0 ≤ s * s' * (d.y * d.y) := by linarith [mul_nonneg h4 h4']
      exact nonneg_of_mul_nonneg_left this (mul_self_pos.mpr hy)

theorem isUnit_of_circle (c0 s0 : K) (g : Bool) (h : c0 * c0 + s0 * s0 = 1) :
    (⟨c0 * c0, decide (c0 < 0), s0, g⟩ : Dir K).IsUnit c0 s0 := by
  have := Dir.isUnit_div ⟨c0 * c0, decide (c0 < 0), s0, g⟩ (x := c0) (n := 1) rfl
    (by by_cases hc : c0 < 0 <;> simp [hc, le_of_lt, not_lt.mp]) one_pos (by rw [one_mul]; exact h.symm)
  rwa [div_one, div_one] at this

/-- every position has a zero out-of-plane coordinate -/
theorem project_out_of_plane_zero (pl : Plane) (p : Pose K) (c s : K) :
    normalCoord pl (projectPose pl p c s).t = 0 := by
  cases pl <;> rfl

/-- the in-plane coordinates are unchanged -/
theorem project_in_plane_kept (pl : Plane) (p : Pose K) (c s : K) :
    inPlane pl (projectPose pl p c s).t = inPlane pl p.t := by
  cases pl <;> rfl

/-- every new orientation is a pure rotation about the plane normal: it fixes the normal (from
both sides), is a proper rotation, and is the Rodrigues matrix `exp(φ·n)` of the unit normal -/
theorem project_pure_rotation_about_normal (pl : Plane) (c s : K) (h : c * c + s * s = 1) :
    (rotAbout pl c s).mulVec pl.axis = pl.axis ∧
    (rotAbout pl c s).transpose.mulVec pl.axis = pl.axis ∧
    IsRot (rotAbout pl c s) ∧
    rotAbout pl c s = rodrigues pl.axis s (1 - c) := by
  have e := rotAbout_eq_rodrigues pl c s
  have hv : (rotAbout pl c s).mulVec pl.axis = pl.axis := by rw [e, rodrigues_mulVec_self]
  have hr : IsRot (rotAbout pl c s) := by
    rw [e]; apply rodrigues_isRot; rw [Plane.axis_normSq]; linear_combination h
  refine ⟨hv, ?_, hr, e⟩
  -- `Rᵀn = Rᵀ(R n) = n`
  conv_lhs => rw [← hv]
  rw [M3.mulVec_mulVec, hr.1.transpose_mul, M3.one_mulVec]

/-- every projected pose is a valid rigid-body pose (orthonormal block, determinant 1; the bottom
row `0 0 0 1` is structural in `Pose`) -/
theorem project_rigid (epsSq : K) (pl : Plane) (p : Pose K) (c s : K)
    (h : (dirOf epsSq pl p.rot).IsUnit c s) :
    IsRigid (projectPose pl p c s) ∧ (projectPose pl p c s).rot.det = 1 := by
  have hr := (project_pure_rotation_about_normal pl c s h.1).2.2.1
  exact ⟨hr.1, hr.2⟩

theorem projectPoses_spec (epsSq : K) (pl : Plane) :
    ∀ (ps : List (Pose K)) (ang : List (K × K)), AnglesOk epsSq pl ps ang →
      (projectPoses pl ps ang).length = ps.length ∧
      ∀ (i : Nat) (p : Pose K), ps[i]? = some p →
        ∃ cs, ang[i]? = some cs ∧ (dirOf epsSq pl p.rot).IsUnit cs.1 cs.2 ∧
          (projectPoses pl ps ang)[i]? = some (projectPose pl p cs.1 cs.2)
  | [], [], _ => ⟨rfl, fun _ _ h => nomatch h⟩
  | [], _ :: _, h => h.elim
  | _ :: _, [], h => h.elim
  | _ :: ps, cs :: css, ⟨h0, hrest⟩ =>
      have ⟨hl, hi⟩ := projectPoses_spec epsSq pl ps css hrest
      ⟨congrArg (· + 1) hl, fun i q hq =>
        match i, hq with
        | 0, hq => Option.some.inj hq ▸ ⟨cs, rfl, h0, rfl⟩
        | j + 1, hq => hi j q hq⟩

/-- count, order and timestamps are unchanged: the result has the same stamps, as many poses, and
its `i`-th pose is the projection of the `i`-th input pose -/
theorem project_count_order_stamps (epsSq : K) (pl : Plane) (tr tr' : Traj K) (ang : List (K × K))
    (hang : AnglesOk epsSq pl tr.poses ang) (h : project pl tr ang = some tr') :
    tr'.stamps = tr.stamps ∧ tr'.poses.length = tr.poses.length ∧
    ∀ (i : Nat) (p : Pose K), tr.poses[i]? = some p →
      ∃ cs, ang[i]? = some cs ∧ (dirOf epsSq pl p.rot).IsUnit cs.1 cs.2 ∧
        tr'.poses[i]? = some (projectPose pl p cs.1 cs.2) := by
  unfold project at h
  split at h
  · exact absurd h (by simp)
  · have e := Option.some.inj h
    subst e
    obtain ⟨hl, hi⟩ := projectPoses_spec epsSq pl tr.poses ang hang
    exact ⟨rfl, hl, hi⟩

/-- a first projection is carried out, a second projection of the same object is refused
(whatever the plane): `project` gives `none`, the model's form of evo's `TrajectoryException` -/
theorem project_twice_refused (pl pl' : Plane) (tr : Traj K) (ang ang' : List (K × K))
    (h0 : tr.projected = false) :
    ∃ tr', project pl tr ang = some tr' ∧ tr'.projected = true ∧ project pl' tr' ang' = none := by
  refine ⟨⟨tr.stamps, projectPoses pl tr.poses ang, true⟩, ?_, rfl, ?_⟩
  · unfold project; simp [h0]
  · unfold project; simp

/-! ### planar poses are fixed (true projection) — XY, YZ: every heading; XZ: only `cos ≥ 0` -/

/-- `heps` puts `dirOf` in its regular (non-gimbal) branch: a rotation about the normal of XY or YZ has
`cy² = a00² + a10² = 1` -/
theorem project_planar_heading (epsSq c0 s0 c s : K) (pl : Plane) (hpl : pl ≠ .xz) (heps : epsSq < 1)
    (h0 : c0 * c0 + s0 * s0 = 1) (h : (dirOf epsSq pl (rotAbout pl c0 s0)).IsUnit c s) : c = c0 ∧ s = s0 := by
  have hd : dirOf epsSq pl (rotAbout pl c0 s0) = ⟨c0 * c0, decide (c0 < 0), s0, false⟩ := by
    cases pl
    · simp [dirOf, rotAbout, h0, heps]; congr
    · exact absurd rfl hpl
    · simp [dirOf, rotAbout, heps]; congr
  rw [hd] at h
  exact dir_unit_unique _ h (isUnit_of_circle c0 s0 false h0)

/-- **XY**: a pose in the plane (`z = 0`, rotation about z by any heading `(c₀, s₀)` on the unit
circle) is left unchanged -/
theorem project_xy_fixes_planar (epsSq c0 s0 x y c s : K) (heps : epsSq < 1)
    (h0 : c0 * c0 + s0 * s0 = 1)
    (h : (dirOf epsSq .xy (rotAbout .xy c0 s0)).IsUnit c s) :
    projectPose .xy ⟨rotAbout .xy c0 s0, ⟨x, y, 0⟩⟩ c s = ⟨rotAbout .xy c0 s0, ⟨x, y, 0⟩⟩ := by
  obtain ⟨rfl, rfl⟩ := project_planar_heading epsSq c0 s0 c s .xy (by decide) heps h0 h
  rfl

/-- **YZ**: likewise for every heading -/
theorem project_yz_fixes_planar (epsSq c0 s0 y z c s : K) (heps : epsSq < 1)
    (h0 : c0 * c0 + s0 * s0 = 1)
    (h : (dirOf epsSq .yz (rotAbout .yz c0 s0)).IsUnit c s) :
    projectPose .yz ⟨rotAbout .yz c0 s0, ⟨0, y, z⟩⟩ c s = ⟨rotAbout .yz c0 s0, ⟨0, y, z⟩⟩ := by
  obtain ⟨rfl, rfl⟩ := project_planar_heading epsSq c0 s0 c s .yz (by decide) heps h0 h
  rfl

/-- what `project(XZ)` does to a planar pose with heading `(c₀, s₀)`: the new heading is
`(|c₀|, s₀)` — the middle `sxyz` Euler angle is confined to `[−π/2, π/2]` -/
theorem project_xz_planar_heading (epsSq c0 s0 c s : K) (h0 : c0 * c0 + s0 * s0 = 1)
    (h : (dirOf epsSq .xz (rotAbout .xz c0 s0)).IsUnit c s) : c = |c0| ∧ s = s0 := by
  have hd : dirOf epsSq .xz (rotAbout .xz c0 s0)
      = ⟨|c0| * |c0|, decide (|c0| < 0), s0, !decide (epsSq < c0 * c0 + 0 * 0)⟩ := by
    simp only [dirOf, rotAbout]
    have h1 : c0 * c0 + 0 * 0 = |c0| * |c0| := by rw [abs_mul_abs_self]; ring
    have h2 : decide (|c0| < 0) = false := by simp
    rw [h2, ← h1]; simp
  rw [hd] at h
  have h0' : |c0| * |c0| + s0 * s0 = 1 := by rw [abs_mul_abs_self]; exact h0
  exact dir_unit_unique _ h (isUnit_of_circle |c0| s0 _ h0')

/-- **XZ, partial**: a planar pose whose heading has `cos ≥ 0` (`|θ| ≤ π/2`) is left unchanged.
Missing: headings beyond ±90°, where the statement is false (`project_xz_counterexample`). -/
theorem project_xz_fixes_planar_partial (epsSq c0 s0 x z c s : K)
    (h0 : c0 * c0 + s0 * s0 = 1) (hc : 0 ≤ c0)
    (h : (dirOf epsSq .xz (rotAbout .xz c0 s0)).IsUnit c s) :
    projectPose .xz ⟨rotAbout .xz c0 s0, ⟨x, 0, z⟩⟩ c s = ⟨rotAbout .xz c0 s0, ⟨x, 0, z⟩⟩ := by
  obtain ⟨rfl, rfl⟩ := project_xz_planar_heading epsSq c0 s0 c s h0 h
  rw [abs_of_nonneg hc]; rfl

/-- beyond ±90° the planar pose is **changed**: its heading `(c₀, s₀)`, `c₀ < 0`, becomes `(−c₀, s₀)` -/
theorem project_xz_changes_beyond_90 (epsSq c0 s0 x z c s : K)
    (h0 : c0 * c0 + s0 * s0 = 1) (hc : c0 < 0)
    (h : (dirOf epsSq .xz (rotAbout .xz c0 s0)).IsUnit c s) :
    projectPose .xz ⟨rotAbout .xz c0 s0, ⟨x, 0, z⟩⟩ c s = ⟨rotAbout .xz (-c0) s0, ⟨x, 0, z⟩⟩ ∧
    projectPose .xz ⟨rotAbout .xz c0 s0, ⟨x, 0, z⟩⟩ c s ≠ ⟨rotAbout .xz c0 s0, ⟨x, 0, z⟩⟩ := by
  obtain ⟨rfl, rfl⟩ := project_xz_planar_heading epsSq c0 s0 c s h0 h
  rw [abs_of_neg hc]
  refine ⟨rfl, ?_⟩
  intro e
  have := congrArg (fun q : Pose K => q.rot.a00) e
  simp only [projectPose, rotAbout] at this
  linarith

end ordered

/-! ### every heading `θ ∈ (−π, π]`, over ℝ, with `atan2 = Complex.arg` -/
section real
open Real

/-- **XY, all headings**: the planar pose with heading `θ` is unchanged, and the heading read
back by `atan2` from the certified direction is `θ` itself -/
theorem project_xy_fixes_planar_real (epsSq θ x y c s : ℝ) (heps : epsSq < 1)
    (h : (dirOf epsSq .xy (rotAbout .xy (cos θ) (sin θ))).IsUnit c s) :
    projectPose .xy ⟨rotAbout .xy (cos θ) (sin θ), ⟨x, y, 0⟩⟩ c s = ⟨rotAbout .xy (cos θ) (sin θ), ⟨x, y, 0⟩⟩ ∧
    (θ ∈ Set.Ioc (-π) π → atan2 s c = θ) := by
  have h0 := cos_sin_circle θ
  refine ⟨project_xy_fixes_planar epsSq _ _ x y c s heps h0 h, ?_⟩
  obtain ⟨rfl, rfl⟩ := project_planar_heading epsSq _ _ c s .xy (by decide) heps h0 h
  exact atan2_cos_sin θ

/-- **YZ, all headings** -/
theorem project_yz_fixes_planar_real (epsSq θ y z c s : ℝ) (heps : epsSq < 1)
    (h : (dirOf epsSq .yz (rotAbout .yz (cos θ) (sin θ))).IsUnit c s) :
    projectPose .yz ⟨rotAbout .yz (cos θ) (sin θ), ⟨0, y, z⟩⟩ c s = ⟨rotAbout .yz (cos θ) (sin θ), ⟨0, y, z⟩⟩ := by
  have h0 := cos_sin_circle θ
  exact project_yz_fixes_planar epsSq _ _ y z c s heps h0 h

/-- **XZ, partial**: headings with `|θ| ≤ π/2` are fixed -/
theorem project_xz_fixes_planar_real_partial (epsSq θ x z c s : ℝ) (hθ : |θ| ≤ π / 2)
    (h : (dirOf epsSq .xz (rotAbout .xz (cos θ) (sin θ))).IsUnit c s) :
    projectPose .xz ⟨rotAbout .xz (cos θ) (sin θ), ⟨x, 0, z⟩⟩ c s = ⟨rotAbout .xz (cos θ) (sin θ), ⟨x, 0, z⟩⟩ := by
  have h0 := cos_sin_circle θ
  have hc : 0 ≤ cos θ := by
    obtain ⟨h1, h2⟩ := abs_le.mp hθ
    exact Real.cos_nonneg_of_neg_pi_div_two_le_of_le h1 h2
  exact project_xz_fixes_planar_partial epsSq _ _ x z c s h0 hc h

/-- **F1 over ℝ**: a planar XZ pose with heading `θ ∈ (π/2, π]` comes back with heading `π − θ`
(mirrored at the z axis), e.g. `2π/3 ↦ π/3` -/
theorem project_xz_mirrors_beyond_90_real (epsSq θ c s : ℝ) (h1 : π / 2 < θ) (h2 : θ ≤ π)
    (h : (dirOf epsSq .xz (rotAbout .xz (cos θ) (sin θ))).IsUnit c s) :
    atan2 s c = π - θ ∧ π - θ ≠ θ := by
  have h0 := cos_sin_circle θ
  have hneg : cos θ < 0 := Real.cos_neg_of_pi_div_two_lt_of_lt h1 (by linarith [Real.pi_pos])
  obtain ⟨rfl, rfl⟩ := project_xz_planar_heading epsSq _ _ c s h0 h
  rw [abs_of_neg hneg, ← Real.cos_pi_sub, ← Real.sin_pi_sub]
  refine ⟨atan2_cos_sin (π - θ) ⟨by linarith [Real.pi_pos], by linarith [Real.pi_pos]⟩, ?_⟩
  intro e; linarith

/-- the instance quoted in the finding: heading 120° comes back as 60° -/
theorem project_xz_counterexample_real (epsSq c s : ℝ)
    (h : (dirOf epsSq .xz (rotAbout .xz (cos (2 * π / 3)) (sin (2 * π / 3)))).IsUnit c s) :
    atan2 s c = π / 3 := by
  have := (project_xz_mirrors_beyond_90_real epsSq (2 * π / 3) c s (by linarith [Real.pi_pos])
    (by linarith [Real.pi_pos]) h).1
  rw [this]; ring

/-- over ℝ the certified direction always **exists** (so the model is total): for every
direction with `xsq ≥ 0` whose sign flag is consistent there is a unit vector along it -/
theorem dir_unit_exists (d : Dir ℝ) (hx : 0 ≤ d.xsq) (hneg : d.xneg = true → 0 < d.xsq) :
    ∃ c s, d.IsUnit c s := by
  by_cases hN : d.xsq + d.y * d.y = 0
  · have hx0 : d.xsq = 0 := by nlinarith [mul_self_nonneg d.y]
    refine ⟨1, 0, by norm_num, by rw [hN, hx0]; ring, ?_, by simp, fun _ => ⟨rfl, rfl⟩⟩
    by_cases hn : d.xneg = true
    · have := hneg hn; rw [hx0] at this; exact absurd this (lt_irrefl 0)
    · simp [hn]
  · have hNpos : 0 < d.xsq + d.y * d.y := lt_of_le_of_ne (add_nonneg hx (mul_self_nonneg d.y)) (Ne.symm hN)
    have hnn := Real.mul_self_sqrt hNpos.le
    have hxx := Real.mul_self_sqrt hx
    by_cases hb : d.xneg = true
    · exact ⟨_, _, d.isUnit_div (x := -√d.xsq) (by rw [neg_mul_neg, hxx]) (by simp [hb])
        (Real.sqrt_pos.mpr hNpos) hnn⟩
    · exact ⟨_, _, d.isUnit_div hxx (by simp [hb]) (Real.sqrt_pos.mpr hNpos) hnn⟩

/-- `project` is total on valid inputs over ℝ: every matrix has a certified Euler direction -/
theorem project_direction_exists (epsSq : ℝ) (pl : Plane) (m : M3 ℝ) :
    ∃ c s, (dirOf epsSq pl m).IsUnit c s := by
  have sq : ∀ a : ℝ, (decide (a < 0) = true → 0 < a * a) := by
    intro a ha; simp only [decide_eq_true_eq] at ha; exact mul_pos_of_neg_of_neg ha ha
  apply dir_unit_exists
  · cases pl <;> simp only [dirOf] <;> (try split_ifs) <;>
      first | exact mul_self_nonneg _ | exact zero_le_one | (nlinarith [mul_self_nonneg m.a00, mul_self_nonneg m.a10])
  · cases pl <;> simp only [dirOf] <;> (try split_ifs) <;>
      first | exact sq _ | (intro h; exact absurd h (by simp))

end real

/-! ### finding F1, kernel-checked on a rational planar pose -/

/-- the pose at `(1, 0, 3)` in the XZ plane with heading `cos = −3/5`, `sin = 4/5` (≈ 126.87°) -/
def f1Pose : Pose ℚ := ⟨rotAbout .xz (-3/5) (4/5), ⟨1, 0, 3⟩⟩

/-- **F1**: `project(XZ)` is not the identity on the planar pose `f1Pose`: the (unique) certified
direction is `(3/5, 4/5)` (≈ 53.13°), so the result differs from the input. -/
theorem project_xz_counterexample :
    (dirOf epsSqRat .xz f1Pose.rot).IsUnit (3/5) (4/5) ∧
    (∀ c s : ℚ, (dirOf epsSqRat .xz f1Pose.rot).IsUnit c s →
      projectPose .xz f1Pose c s = ⟨rotAbout .xz (3/5) (4/5), ⟨1, 0, 3⟩⟩ ∧ projectPose .xz f1Pose c s ≠ f1Pose) := by
  have hu : (dirOf epsSqRat .xz f1Pose.rot).IsUnit (3/5) (4/5) := by decide +kernel
  refine ⟨hu, ?_⟩
  intro c s h
  obtain ⟨rfl, rfl⟩ := dir_unit_unique _ h hu
  constructor <;> decide +kernel

/-! ### non-vacuity -/

example : ((3 : ℚ) / 5) * (3 / 5) + (4 / 5) * (4 / 5) = 1 := by norm_num
example : (dirOf epsSqRat .xy (rotAbout .xy (-3/5) (4/5))).IsUnit (-3/5) (4/5) := by decide +kernel
example : (dirOf epsSqRat .yz (rotAbout .yz (-3/5) (-4/5))).IsUnit (-3/5) (-4/5) := by decide +kernel
example : (dirOf epsSqRat .xz (rotAbout .xz (3/5) (-4/5))).IsUnit (3/5) (-4/5) := by decide +kernel
example : epsSqRat < 1 := by decide +kernel
-- a gimbal-lock attitude (pitch −90°): XY projects to heading 0, YZ uses the (M₁₁, −M₁₂) direction
example : (dirOf epsSqRat .xy (⟨0, 0, 1, 0, 1, 0, -1, 0, 0⟩ : M3 ℚ)) = ⟨1, false, 0, true⟩ := by decide +kernel
example : (dirOf epsSqRat .yz (⟨0, -4/5, 3/5, 0, 3/5, 4/5, -1, 0, 0⟩ : M3 ℚ)) = ⟨9/25, false, -4/5, true⟩ := by
  decide +kernel
example : AnglesOk epsSqRat .xz [f1Pose, Pose.one] [(3/5, 4/5), (1, 0)] := by
  refine ⟨by decide +kernel, by decide +kernel, trivial⟩
example : history ⟨[0], [Pose.one], false⟩ [.xy, .xz, .xy] = [true, false, false] := by decide +kernel

end Evo.C14
