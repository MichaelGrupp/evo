/-
C16 — computations do not modify their inputs; derived objects are independent.

Property theorems about `Evo.Heap` (`Model/Heap.lean`): trajectory objects own arrays (cells);
every method is *local* (writes only arrays the object reaches or new ones); separation of two
objects is preserved by every operation history on either and implies that the other one shows
exactly what it showed before; deep copies, associated trajectories, merged trajectories and the
parts returned by the repaired splitters (fix fa25a82) are made of new arrays only, hence separated
from their sources and from every other existing object.  The pre-fix splitters are kept as a
counterexample.
The first sentence of the property (metrics, file writers, … leave their arguments bit-for-bit
unchanged) is a frame condition checked by snapshots in `harness/props/C16.py`, not proved here.
-/
import EvoModel.Lemmas.Heap
namespace Evo.C16
open Evo Evo.Traj Evo.Heap

/-- every method (transform / scale / reduce_to_ids / project / the lazy reads) is local -/
theorem ops_are_local (h : Heap) (o : Obj) (ops : List HOp) :
    Local h o (hrun h o ops).1 (hrun h o ops).2 := hrun_local h o ops

/-- **separation is preserved**: whatever history runs on `o`, it stays separated from `b`
(and `b` stays well-formed) -/
theorem sep_preserved_by_ops (h : Heap) (o b : Obj) (ops : List HOp) (wb : Wf h b) (s : Sep o b) :
    Sep (hrun h o ops).2 b ∧ Wf (hrun h o ops).1 b :=
  let r := (hrun_local h o ops).noninterference wb s
  ⟨r.2.1, r.2.2⟩

/-- **separation implies non-interference**: any operation history on one object — including the
in-place `project` — leaves every array reachable from a separated object, hence every view of
it, unchanged -/
theorem sep_implies_noninterference (h : Heap) (o b : Obj) (ops : List HOp) (wb : Wf h b) (s : Sep o b) :
    view (hrun h o ops).1 b = view h b :=
  ((hrun_local h o ops).noninterference wb s).1

/-- array by array: every array a separated object reaches holds what it held (so the lazy properties compute
the same positions, rotations and matrices from them) -/
theorem noninterference_values (h : Heap) (o b : Obj) (ops : List HOp) (wb : Wf h b) (s : Sep o b) :
    ∀ a ∈ b.reach, (hrun h o ops).1.get a = h.get a := by
  intro a ha
  exact (hrun_local h o ops).frame a (wb a ha) (fun hm => s a hm ha)

/-- **derivations are fresh**: a deep copy, an output of `associate_trajectories`, and the result of
`trajectory.merge` consist of arrays allocated by the call; the call itself writes no existing array -/
theorem derive_fresh (h : Heap) (o : Obj) (ids : List Nat) (os : List Obj) :
    (Ext h (deepcopy h o).1 ∧ FreshSince h (deepcopy h o).2) ∧
    (Ext h (associateOne h o ids).1 ∧ FreshSince h (associateOne h o ids).2) ∧
    (Ext h (merge h os).1 ∧ FreshSince h (merge h os).2.2) :=
  ⟨deepcopy_spec h o, associateOne_spec h o ids, merge_spec h os⟩

/-- **derived objects are separated from their sources** (and from any other existing object `x`) -/
theorem derive_fresh_sep (h : Heap) (o x : Obj) (ids : List Nat) (os : List Obj) (wx : Wf h x) :
    Sep (deepcopy h o).2 x ∧ Sep (associateOne h o ids).2 x ∧ Sep (merge h os).2.2 x :=
  ⟨(derived_noninterference (deepcopy_spec h o) wx).1, (derived_noninterference (associateOne_spec h o ids) wx).1,
    (derived_noninterference (merge_spec h os) wx).1⟩

/-- derive `B` from `A` (copy / associate), mutate `B` by any history: `A` shows what it showed -/
theorem derived_then_mutated_leaves_source (h : Heap) (a : Obj) (ids : List Nat) (ops : List HOp) (wa : Wf h a) :
    view (hrun (deepcopy h a).1 (deepcopy h a).2 ops).1 a = view h a ∧
    view (hrun (associateOne h a ids).1 (associateOne h a ids).2 ops).1 a = view h a :=
  ⟨(derived_noninterference (deepcopy_spec h a) wa).2 ops,
    (derived_noninterference (associateOne_spec h a ids) wa).2 ops⟩

/-- merging reads its inputs (their position/quaternion caches may get filled) but writes none of
their arrays, and whatever is done to the merged trajectory afterwards leaves the inputs unchanged -/
theorem merge_then_mutated_leaves_inputs (h : Heap) (os : List Obj) (x : Obj) (ops : List HOp) (wx : Wf h x) :
    view (hrun (merge h os).1 (merge h os).2.2 ops).1 x = view h x :=
  (derived_noninterference (merge_spec h os) wx).2 ops

/-- **`align_origin` / `align`**: the reference trajectory is only read; afterwards the aligned trajectory and the
reference are still separated, so any later history on the aligned one (including `project`) leaves the reference
unchanged -/
theorem align_keeps_reference (h : Heap) (est ref : Obj) (rd ops later : List HOp)
    (we : Wf h est) (wr : Wf h ref) (s : Sep est ref) :
    let r := alignWith h est ref rd ops
    view (hrun r.1 r.2.1 later).1 r.2.2 = view (hrun h ref rd).1 (hrun h ref rd).2 := by
  intro r
  obtain ⟨s1, w1, v1⟩ := alignWith_spec h est ref rd ops we wr s
  rw [sep_implies_noninterference _ _ _ later w1 s1, v1]

/-- **`merge_results`** deep-copies the first result: every trajectory of the merged result consists of new arrays, so
operating on it leaves every existing object (in particular the inputs' trajectories) unchanged -/
theorem merge_results_fresh_sep (h : Heap) (os : List Obj) (x : Obj) (wx : Wf h x) :
    Ext h (deepcopyList h os).1 ∧
    ∀ c ∈ (deepcopyList h os).2, Sep c x ∧ ∀ ops, view (hrun (deepcopyList h os).1 c ops).1 x = view h x := by
  obtain ⟨e, f⟩ := deepcopyList_spec h os
  exact ⟨e, fun c hc => derived_noninterference ⟨e, f c hc⟩ wx⟩

/-- **the repaired splitters**: the call writes no existing array, every part consists of new
arrays only (so it is separated from the parent and from every other object), and any history
on a part leaves the parent's arrays unchanged -/
theorem split_fresh_sep (h : Heap) (o : Obj) (cut : Bool) (bounds : List Nat) (wo : Wf h o) :
    Ext h (splitNew h o cut bounds).1 ∧
    (∀ p ∈ (splitNew h o cut bounds).2.2, Sep p o ∧
      ∀ ops, view (hrun (splitNew h o cut bounds).1 p ops).1 o = view h o) := by
  obtain ⟨e, f, _⟩ := splitNew_spec h o cut bounds
  exact ⟨e, fun p hp => derived_noninterference ⟨e, f p hp⟩ wo⟩

/-- **size boundary**: the early-out of every splitter (fewer than two poses; nothing to cut) returns exactly one part,
a deep copy: it consists of new arrays only, the source is not even read into a cache, and whatever is done to the
part leaves the source unchanged.  (Before the fix this branch returned the source object itself:
`split_nocut_returns_parent`.) -/
theorem split_single_pose_fresh (h : Heap) (o : Obj) (bounds : List Nat) (wo : Wf h o) :
    (splitNew h o false bounds).2.2 = [(deepcopy h o).2] ∧
    (splitNew h o false bounds).2.1 = o ∧
    FreshSince h (deepcopy h o).2 ∧
    ∀ ops, view (hrun (deepcopy h o).1 (deepcopy h o).2 ops).1 o = view h o :=
  ⟨rfl, rfl, (deepcopy_spec h o).2, (derived_noninterference (deepcopy_spec h o) wo).2⟩

/-- for the parent a split is a local step (its matrix cache may get filled): it reaches only arrays it
reached before or new ones, and no array outside its reach was written -/
theorem split_parent_sep_parts (h : Heap) (o : Obj) (cut : Bool) (bounds : List Nat) :
    Local h o (splitNew h o cut bounds).1 (splitNew h o cut bounds).2.1 :=
  (splitNew_spec h o cut bounds).2.2

/-! ### the pre-fix splitters (finding F2): shared arrays, and what follows -/

def rz : M3 Rat := ⟨0, -1, 0, 1, 0, 0, 0, 0, 1⟩
def q1 : P := ⟨rz, ⟨1, 2, 3⟩⟩
def q2 : P := ⟨M3.one, ⟨4, 5, 6⟩⟩
def q3 : P := ⟨rz, ⟨20, 20, 7⟩⟩
def parent0 : Heap × Obj := newSe3 Heap.empty [q1, q2, q3] (some [0, 1, 2])

/-- pre-fix: both parts of a split at index 2 hold matrix arrays of the parent -/
theorem split_shares_cells :
    let r := splitOld parent0.1 parent0.2 true [0, 2, 3]
    (r.2.2.map (fun p => sharesB p r.2.1)) = [true, true] := by decide +kernel

/-- pre-fix, nothing to cut: the "part" *is* the parent -/
theorem split_nocut_returns_parent :
    (splitOld parent0.1 parent0.2 false []).2.2 = [parent0.2] := rfl

/-- pre-fix: projecting a part rewrites a matrix array of the parent (behind its back: a cached
positions array of the parent would now disagree with its matrices) -/
theorem split_then_project_changes_parent :
    let r := splitOld parent0.1 parent0.2 true [0, 2, 3]
    let part := (r.2.2.headD parent0.2)
    (project r.1 part 2 [rz, M3.one]).1.get 0 ≠ r.1.get 0 := by decide +kernel

/-- the same scenario with the repaired splitters: parts share nothing with the parent and the
projection leaves the parent's matrix as it was -/
theorem split_then_project_keeps_parent :
    let r := splitNew parent0.1 parent0.2 true [0, 2, 3]
    (r.2.2.map (fun p => sharesB p r.2.1)) = [false, false] ∧
    (project r.1 (r.2.2.headD parent0.2) 2 [rz, M3.one]).1.get 0 = r.1.get 0 := by decide +kernel

/-! ### why `scale()` must rebind: self-aliased objects -/

/-- an object whose matrix list holds the same array in two slots: `reduce_to_ids([0, 0, 1])` -/
def selfAliased : Heap × Obj := reduce parent0.1 parent0.2 [0, 0, 1]

/-- the rebinding `scale()` of the code and an in-place `*=` on the matrices agree on `parent0` (no repeated
array), but differ on the self-aliased object: the shared array is scaled once per slot
(position (1,2,3) becomes (4,8,12) instead of (2,4,6)), so the matrices disagree with a positions
array cached before -/
theorem scale_inplace_differs_on_self_alias :
    (selfAliased.2.se3? = some [0, 0, 1]) ∧
    se3Vals (scale selfAliased.1 selfAliased.2 2).1 (scale selfAliased.1 selfAliased.2 2).2
      = [⟨rz, ⟨2, 4, 6⟩⟩, ⟨rz, ⟨2, 4, 6⟩⟩, ⟨M3.one, ⟨8, 10, 12⟩⟩] ∧
    se3Vals (scaleInplace selfAliased.1 selfAliased.2 2).1 (scaleInplace selfAliased.1 selfAliased.2 2).2
      = [⟨rz, ⟨4, 8, 12⟩⟩, ⟨rz, ⟨4, 8, 12⟩⟩, ⟨M3.one, ⟨8, 10, 12⟩⟩] ∧
    se3Vals (scaleInplace parent0.1 parent0.2 2).1 (scaleInplace parent0.1 parent0.2 2).2
      = se3Vals (scale parent0.1 parent0.2 2).1 (scale parent0.1 parent0.2 2).2 := by decide +kernel

/-! ### non-vacuity -/

example : Wf parent0.1 parent0.2 := by
  intro a ha
  have : parent0.2.reach = [3, 0, 1, 2] := by decide +kernel
  rw [this] at ha
  have : parent0.1.next = 4 := by decide +kernel
  rw [this]
  simp at ha
  omega

/-- two separated objects exist: a trajectory and its deep copy; a history on the copy including
the in-place projection -/
example :
    let c := deepcopy parent0.1 parent0.2
    sharesB c.2 parent0.2 = false ∧
    (hrun c.1 c.2 [.readPos, .scale 2, .project 2 [rz, M3.one, rz], .reduce [0, 2]]).2.reach = [13, 9, 11] ∧
    (parent0.2.reach.map (hrun c.1 c.2 [.readPos, .scale 2, .project 2 [rz, M3.one, rz], .reduce [0, 2]]).1.get)
      = parent0.2.reach.map parent0.1.get := by decide +kernel

end Evo.C16
