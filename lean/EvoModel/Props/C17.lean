/-
C17 — existing output files are never overwritten without confirmation.

Model: `Model/Overwrite.lean` (user.confirm, check_and_confirm_overwrite, the guard in front of
every write, the per-figure export loop).  The guard shape of every writer and the expression every
call site passes as `confirm_overwrite` are regenerated from the AST of /repo on every run
(`Gen/Writers.lean`, harness/translate/writers.py), so the table theorems below are checked against
the code as it is.  The behaviour of the real writers/commands is tied to the model by the
exhaustive correspondence of harness/props/C17.py.
-/
import EvoModel.Gen.Writers
namespace Evo.C17
open Evo Evo.Overwrite Evo.Gen

theorem confirm_only_y (answer : String) : confirm answer = true ↔ answer = "y" := by
  unfold confirm
  by_cases h : answer = "y" <;> simp [h]

theorem confirm_eq_false {answer : String} (h : answer ≠ "y") : confirm answer = false :=
  Bool.eq_false_iff.mpr (mt (confirm_only_y answer).mp h)

theorem writerStep_wrote (fileExists confirmFlag : Bool) (answer : String)
    (h : fileExists = false ∨ confirmFlag = false ∨ answer = "y") :
    (writerStep fileExists confirmFlag answer).wrote = true := by
  cases confirmFlag <;> cases fileExists <;> simp_all [writerStep, checkAndConfirm, confirm]

/-- **declined_keeps_file**: target exists, warnings enabled, answer is not exactly `y` (`n`, empty,
`Y`, `yes`, anything): the user is asked, nothing is written, the file keeps its bytes. -/
theorem declined_keeps_file (old new : Bytes) (answer : String) (h : answer ≠ "y") :
    applyWriter (some old) new true answer = (some old, true) ∧
    writerStep true true answer = ⟨true, false⟩ := by
  simp [applyWriter, writerStep, checkAndConfirm, confirm_eq_false h]

/-- **accepted_or_disabled_replaces**: target absent, or warnings disabled, or answer `y`: the file is
the new output afterwards. -/
theorem accepted_or_disabled_replaces (old : File) (new : Bytes) (confirmFlag : Bool) (answer : String)
    (h : old = none ∨ confirmFlag = false ∨ answer = "y") :
    (applyWriter old new confirmFlag answer).1 = some new := by
  rw [applyWriter, writerStep_wrote _ _ _ (h.imp_left (by simp))]
  rfl

/-- **no_prompt_if_absent**: an absent target is written without a prompt.  In general the user is asked exactly
when the target exists and confirmation is enabled (`prompts_iff_exists_and_enabled`). -/
theorem no_prompt_if_absent (new : Bytes) (confirmFlag : Bool) (answer : String) :
    applyWriter none new confirmFlag answer = (some new, false) := by
  cases confirmFlag <;> simp [applyWriter, writerStep, checkAndConfirm]

theorem prompts_iff_exists_and_enabled (old : File) (new : Bytes) (confirmFlag : Bool) (answer : String) :
    (applyWriter old new confirmFlag answer).2 = (old.isSome && confirmFlag) := by
  cases confirmFlag <;> cases old <;> simp [applyWriter, writerStep, checkAndConfirm]

/-- nothing else happens to the file: it is the old or the new content -/
theorem file_is_old_or_new (old : File) (new : Bytes) (confirmFlag : Bool) (answer : String) :
    (applyWriter old new confirmFlag answer).1 = old ∨ (applyWriter old new confirmFlag answer).1 = some new := by
  unfold applyWriter
  cases h : (writerStep old.isSome confirmFlag answer).wrote <;> simp [h]

/-- **multi_figure_export_stops_at_first_decline**: the figures before the first existing target (absent targets,
written unasked) are written; when the prompt for that target is declined, it and every later one keep their
bytes (also the absent ones stay absent). -/
theorem multi_figure_export_stops_at_first_decline (pre : List File) (newPre : List Bytes) (old : Bytes)
    (post : List File) (n : Bytes) (ns : List Bytes) (answers : List String)
    (hlen : pre.length = newPre.length) (hpre : ∀ f ∈ pre, f = none)
    (hdecl : answers.headD "" ≠ "y") :
    (exportMulti true (pre ++ some old :: post) (newPre ++ n :: ns) answers).1
      = newPre.map some ++ some old :: post := by
  induction pre generalizing newPre with
  | nil =>
    cases newPre with
    | nil =>
      have hc' : confirm (answers.head?.getD "") = false := by
        simpa [List.headD_eq_head?_getD] using confirm_eq_false hdecl
      simp [exportMulti, writerStep, checkAndConfirm, hc']
    | cons a as => simp at hlen
  | cons f fs ih =>
    cases newPre with
    | nil => simp at hlen
    | cons a as =>
      have hf : f = none := hpre f (by simp)
      subst hf
      have := ih as (by simpa using hlen) (fun g hg => hpre g (by simp [hg]))
      simp [exportMulti, writerStep, checkAndConfirm, this]

/-- with confirmation disabled every figure is written and nobody is asked -/
theorem multi_figure_export_disabled_writes_all (fs : List File) (ns : List Bytes) (answers : List String)
    (hlen : fs.length = ns.length) :
    (exportMulti false fs ns answers) = (ns.map some, 0) := by
  induction fs generalizing ns with
  | nil => cases ns <;> simp_all [exportMulti]
  | cons f fs ih =>
    cases ns with
    | nil => simp at hlen
    | cons n ns =>
      have := ih ns (by simpa using hlen)
      simp [exportMulti, writerStep, this]

/-! ## the regenerated tables: every writer is guarded, every command passes the flag -/

theorem Guard.run_eq (g : Guard) (pk : PathKind) (fileExists confirmFlag : Bool) (answer : String)
    (h : g.kind = .plain ∨ ((g.kind = .typedInner ∨ g.kind = .typedOuter) ∧ g.types.contains pk.pyName = true)) :
    g.run pk fileExists confirmFlag answer = writerStep fileExists confirmFlag answer := by
  unfold Guard.run writerStep
  rcases h with h | ⟨h | h, ht⟩
  · rw [h]
  · rw [h, ht, Bool.and_true]
  · rw [h, ht, if_pos rfl]

/-- the writers the property is about -/
def expectedWriters : List String :=
  ["write_tum_trajectory_file", "write_kitti_poses_file", "save_res_file", "save_df_as_table",
   "serialize", "export"]

def guardFine (g : Guard) : Bool :=
  g.returnsOnDecline &&
  (g.kind == .plain ||
   ((g.kind == .typedInner || g.kind == .typedOuter) && g.types.contains "str" && g.types.contains "Path"))

/-- **all_writers_guarded**: every writer function has its guard(s) in the analysed shape: declines by
`return`, and typed guards cover both `str` and `pathlib.Path`. -/
theorem all_writers_guarded :
    ∀ n ∈ expectedWriters, ∃ w ∈ writers, w.name = n ∧ w.guards ≠ [] ∧ ∀ g ∈ w.guards, guardFine g = true := by
  decide +kernel

/-- every function with a `confirm_overwrite` parameter is one of the expected writers -/
theorem no_unexpected_writer : ∀ w ∈ writers, w.name ∈ expectedWriters := by decide +kernel

/-- **table guards behave as `writerStep`** for str and Path targets, for every answer -/
theorem table_guards_behave_as_writerStep (w : Writer) (hw : w ∈ writers) (g : Guard) (hg : g ∈ w.guards)
    (pk : PathKind) (hpk : pk = .str ∨ pk = .path) (fileExists confirmFlag : Bool) (answer : String) :
    g.run pk fileExists confirmFlag answer = writerStep fileExists confirmFlag answer := by
  apply Guard.run_eq
  have key : ∀ w ∈ writers, ∀ g ∈ w.guards, ∀ pk ∈ [PathKind.str, PathKind.path],
      (g.kind = .plain ∨ ((g.kind = .typedInner ∨ g.kind = .typedOuter) ∧ g.types.contains pk.pyName = true)) := by
    decide +kernel
  exact key w hw g hg pk (by rcases hpk with h | h <;> simp [h])

/-- **all_cli_sites_pass_not_no_warnings**: every call of a writer in evo_ape / evo_rpe / evo_traj /
evo_res / common_ape_rpe passes `confirm_overwrite=not args.no_warnings`. -/
theorem all_cli_sites_pass_not_no_warnings :
    ∀ c ∈ callSites, c.cli = true → c.confirm = "not args.no_warnings" := by
  decide +kernel

/-- **no_assignment_to_confirm_flags**: nowhere in evo/ is an attribute that a `confirm_overwrite`
expression reads (`args.no_warnings`) assigned, deleted or set through `setattr`: the value every call
site negates is the one the user gave on the command line (or in the `-c` file). -/
theorem no_assignment_to_confirm_flags :
    flagAssignments = [] ∧ "no_warnings" ∈ flagAttributes := by
  decide +kernel

/-- the (module, writer) pairs behind the output options of the four commands -/
def expectedSites : List (String × String) :=
  [("evo/main_ape.py", "save_res_file"), ("evo/main_rpe.py", "save_res_file"),
   ("evo/common_ape_rpe.py", "export"), ("evo/common_ape_rpe.py", "serialize"),
   ("evo/main_traj.py", "export"), ("evo/main_traj.py", "serialize"),
   ("evo/main_traj.py", "write_tum_trajectory_file"), ("evo/main_traj.py", "write_kitti_poses_file"),
   ("evo/main_traj.py", "save_df_as_table"),
   ("evo/main_res.py", "save_df_as_table"), ("evo/main_res.py", "export"), ("evo/main_res.py", "serialize")]

theorem every_output_option_has_cli_site :
    ∀ e ∈ expectedSites, ∃ c ∈ callSites, c.cli = true ∧ c.file = e.1 ∧ c.writer = e.2 := by
  decide +kernel

theorem cli_flag_value (c : CallSite) (hc : c ∈ callSites) (hcli : c.cli = true) (dflt noWarnings : Bool) :
    confirmExpr c.confirm dflt noWarnings = some (!noWarnings) := by
  rw [all_cli_sites_pass_not_no_warnings c hc hcli]; rfl

/-- **command level** (stated for `str` targets): for every command call site and every writer guard in the source,
an existing target with warnings enabled and an answer other than `y` is prompted for and not written; with
`--no_warnings`, or answer `y`, or an absent target, it is written (`cli_accepted_or_disabled_writes`). -/
theorem cli_declined_keeps_file (c : CallSite) (hc : c ∈ callSites) (hcli : c.cli = true)
    (w : Writer) (hw : w ∈ writers) (g : Guard) (hg : g ∈ w.guards) (answer : String) (h : answer ≠ "y") :
    ∃ cf, confirmExpr c.confirm w.dflt false = some cf ∧ g.run .str true cf answer = ⟨true, false⟩ := by
  refine ⟨true, cli_flag_value c hc hcli _ _, ?_⟩
  rw [table_guards_behave_as_writerStep w hw g hg .str (Or.inl rfl)]
  exact (declined_keeps_file [] [] answer h).2

theorem cli_accepted_or_disabled_writes (c : CallSite) (hc : c ∈ callSites) (hcli : c.cli = true)
    (w : Writer) (hw : w ∈ writers) (g : Guard) (hg : g ∈ w.guards) (noWarnings fileExists : Bool)
    (answer : String) (h : fileExists = false ∨ noWarnings = true ∨ answer = "y") :
    ∃ cf, confirmExpr c.confirm w.dflt noWarnings = some cf ∧ (g.run .str fileExists cf answer).wrote = true := by
  refine ⟨!noWarnings, cli_flag_value c hc hcli _ _, ?_⟩
  rw [table_guards_behave_as_writerStep w hw g hg .str (Or.inl rfl)]
  exact writerStep_wrote _ _ _ (h.imp_right (.imp_left (by simp)))

/-- `evo_config generate -o`: every raw `open(…,'w')` of the command modules sits inside an `if` whose test calls
`check_and_confirm_overwrite`, and main_config.py guards its write by
`args.out and user.check_and_confirm_overwrite(args.out)` (always asks: there is no --no_warnings). -/
theorem generate_out_guarded :
    (∀ r ∈ rawWrites, r.guarded = true) ∧
    (∃ d ∈ directGuards, d.file = "evo/main_config.py" ∧ d.guardsWrite = true ∧
      d.test = "args.out and user.check_and_confirm_overwrite(args.out)") := by
  decide +kernel

/-- `user.confirm` as written in the source is the equality test with `y` -/
theorem confirm_shape_is_equality (answer : String) :
    confirmShape.run answer confirmKey = some (confirm answer) := by
  have h1 : confirmShape = ⟨"NotEq", false, true⟩ := by decide
  have h2 : confirmKey = "y" := by decide
  rw [h1, h2]
  unfold ConfirmShape.run confirm
  by_cases h : answer = "y" <;> simp [h]

/-! ## non-vacuity -/

example : applyWriter (some [1, 2, 3]) [9] true "n" = (some [1, 2, 3], true) := by decide
example : applyWriter (some [1, 2, 3]) [9] true "Y" = (some [1, 2, 3], true) := by decide
example : applyWriter (some [1, 2, 3]) [9] true "yes" = (some [1, 2, 3], true) := by decide
example : applyWriter (some [1, 2, 3]) [9] true "" = (some [1, 2, 3], true) := by decide
example : applyWriter (some [1, 2, 3]) [9] true "y" = (some [9], true) := by decide
example : applyWriter (some [1, 2, 3]) [9] false "n" = (some [9], false) := by decide
example : exportMulti true [none, some [1], some [2], none] [[7], [8], [9], [10]] ["y", "n"]
    = ([some [7], some [8], some [2], none], 2) := by decide
example : 12 ≤ (callSites.filter (·.cli)).length := by decide
/-- a guard that only checks `str` would let a `Path` target through unasked (kill: isinstance str only) -/
example : (Guard.mk .typedInner ["str"] false true).run .path true true "n" = ⟨false, true⟩ := by decide

end Evo.C17
