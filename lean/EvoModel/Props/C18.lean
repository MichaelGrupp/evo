/-
C18 — config edits keep keys, types, user values; generated configs equal their args.

Model: `Model/Config.lean` (set_config / finalize_values / is_number, reset, merge_dicts, the upgrade
merge, the SettingsContainer lock, merge_config, generate with is_option / to_number as repaired by
fix 70efe12 and the pinned generate, argparse for long options over the regenerated option tables).
Tables regenerated from /repo: `Gen/Settings.lean`, `Gen/Options.lean`.
Outside the model (named where it matters): the token spellings nan / inf / infinity / digits with `_` /
surrounding white space / non-ASCII; binary64 overflow; the key `plot_seaborn_palette` (`setConfig`
returns an error for it, so every theorem about successful edits excludes it).
-/
import EvoModel.Lemmas.Config
import EvoModel.Gen.Settings
import EvoModel.Gen.Options
namespace Evo.C18
open Evo Evo.Config

/-- **set_keys_invariant**: a `set` never adds, removes or reorders keys (whatever the tokens) -/
theorem set_keys_invariant (cfg out : Dict) (args : List String) (h : setConfig cfg args = .ok out) :
    keys out = keys cfg := setConfig_keys args cfg out h

/-- **set_changes_only_named**: parameters not named in the argument list keep their value -/
theorem set_changes_only_named (cfg out : Dict) (args : List String) (k : String) (hk : k ∉ args)
    (h : setConfig cfg args = .ok out) : lookup out k = lookup cfg k := setConfig_other args k hk cfg out h

/-- **set_bool_stays_bool**: explicit true/false (any capitalisation), any other value or no value
(toggle): a boolean parameter is boolean afterwards -/
theorem set_bool_stays_bool (cfg out : Dict) (args : List String) (k : String)
    (hb : typeAt cfg k = some .bool) (h : setConfig cfg args = .ok out) : typeAt out k = some .bool :=
  setConfig_keeps_bool args k cfg out h hb

/-- **set_list_stays_list**: one value, several values, `[]` / `none`: a list parameter stays a list -/
theorem set_list_stays_list (cfg out : Dict) (args : List String) (k : String)
    (hb : typeAt cfg k = some .list) (h : setConfig cfg args = .ok out) : typeAt out k = some .list :=
  setConfig_keeps_list args k cfg out h hb

/-- explicit `true` / `false` (any capitalisation) set the value, any other non-numeric token toggles it -/
theorem set_bool_explicit (cfg : Dict) (k tok : String) (b : Bool)
    (hk : lookup cfg k = some (.atom (.bool b))) (hkp : k ≠ "plot_seaborn_palette")
    (htok : hasKey cfg tok = false) (hnum : isNumber tok = false) :
    ∃ out, setConfig cfg [k, tok] = .ok out ∧
      lookup out k = some (.atom (.bool (if lowerAscii tok = "false" then false
                                          else if lowerAscii tok = "true" then true else !b))) := by
  refine ⟨setKey cfg k _, ?_, lookup_setKey_self _ _ _⟩
  rw [setConfig_pair cfg k tok ((hasKey_iff_lookup _ _).mpr ⟨_, hk⟩) htok]
  simp only [convSet, hnum, finalizeValues, hkp, hk, if_false, Bool.false_eq_true, List.getLast?_singleton, pure_bind]
  split
  · rfl
  · split <;> rfl

/-- **set_numeric_tokens_are_numbers**: a numeric token given to a parameter that is neither boolean
nor a list is stored as a number — an integer if its binary64 value is integral, else that float -/
theorem set_numeric_tokens_are_numbers (cfg : Dict) (k tok : String) (x : Rat) (old : Atom)
    (hk : lookup cfg k = some (.atom old)) (hnb : ∀ b, old ≠ .bool b) (hkp : k ≠ "plot_seaborn_palette")
    (htok : hasKey cfg tok = false) (hnum : isNumber tok = true) (hx : toFloat tok = .ok x) :
    ∃ out, setConfig cfg [k, tok] = .ok out ∧
      lookup out k = some (.atom (if x.den = 1 then .int x.num else .flt x)) := by
  refine ⟨setKey cfg k _, ?_, lookup_setKey_self _ _ _⟩
  rw [setConfig_pair cfg k tok ((hasKey_iff_lookup _ _).mpr ⟨_, hk⟩) htok]
  simp only [convSet, hnum, hx, finalizeValues, hkp, hk, if_true, if_false, bind_pure_comp]
  cases old with
  | bool b => exact absurd rfl (hnb b)
  | _ => rfl

/-- **reset_subset_restores_exactly**: exactly the named default parameters get their default value,
every other parameter keeps its value; with every default key present the key list is unchanged
(`reset_subset_keys_invariant`) -/
theorem reset_subset_restores_exactly (defaults cfg : Dict) (ps : List String) (k : String) :
    lookup (resetSubset defaults cfg ps) k =
      if k ∈ ps ∧ hasKey defaults k = true then lookup defaults k else lookup cfg k :=
  resetSubset_lookup defaults ps k cfg

theorem reset_subset_keys_invariant (defaults cfg : Dict) (ps : List String)
    (hall : ∀ k, hasKey defaults k = true → hasKey cfg k = true) :
    keys (resetSubset defaults cfg ps) = keys cfg := resetSubset_keys defaults ps cfg hall

/-- **merge_hard_soft_semantics**: the keys are the union; soft keeps every value of the first dict;
hard takes the second dict's value where it has one and the first dict's value elsewhere -/
theorem merge_hard_soft_semantics (first second : Dict) (soft : Bool) :
    (∀ k, hasKey (mergeDicts first second soft) k = true ↔ (hasKey first k = true ∨ hasKey second k = true)) ∧
    (soft = true → ∀ k v, lookup first k = some v → lookup (mergeDicts first second soft) k = some v) ∧
    (soft = false → ∀ k, hasKey second k = false → lookup (mergeDicts first second soft) k = lookup first k) ∧
    (soft = false → (keys second).Nodup → ∀ k v, lookup second k = some v →
      lookup (mergeDicts first second soft) k = some v) := by
  refine ⟨fun k => ⟨fun h => merge_hasKey_only first second soft first k h, fun h => ?_⟩, ?_, ?_, ?_⟩
  · rcases h with h | h
    · exact merge_hasKey_first first second soft k h
    · exact merge_hasKey_second first second soft first (fun _ h => h) k h
  · intro hs k v h; subst hs; exact foldl_soft_lookup_first first second first (fun _ _ h => h) k v h
  · intro hs k h; subst hs; exact merge_hard_not_in_second first second k h
  · intro hs hnd k v h; subst hs; exact merge_hard_second_wins first second k v hnd h

/-- **upgrade_adds_missing_keeps_user_values**: the merge of `update_if_outdated` (soft, defaults into the old settings)
keeps every value of the old settings, adds every default key and no other key -/
theorem upgrade_adds_missing_keeps_user_values (defaults old : Dict) :
    (∀ k v, lookup old k = some v → lookup (upgrade defaults old) k = some v) ∧
    (∀ k, hasKey defaults k = true → hasKey (upgrade defaults old) k = true) ∧
    (∀ k, hasKey (upgrade defaults old) k = true → hasKey old k = true ∨ hasKey defaults k = true) :=
  have h := merge_hard_soft_semantics old defaults true
  ⟨h.2.1 rfl, fun k hk => (h.1 k).mpr (.inr hk), fun k => (h.1 k).mp⟩

/-- **locked_rejects_unknown**: the loaded settings accept a value for a known parameter (key list
unchanged) and refuse an unknown one -/
theorem locked_rejects_unknown (settings : Dict) (k : String) (v : JVal) :
    (hasKey settings k = false → lockedSet settings k v = .error .locked) ∧
    (hasKey settings k = true → ∃ out, lockedSet settings k v = .ok out ∧ keys out = keys settings ∧
      lookup out k = some v) := by
  constructor
  · intro h; simp [lockedSet, h]
  · intro h
    exact ⟨setKey settings k v, by simp [lockedSet, h, pure, Except.pure], keys_setKey_of_hasKey _ _ _ h,
      lookup_setKey_self _ _ _⟩

/-- **mergeConfig_config_wins**: every entry of the `-c` file is in the namespace afterwards, whatever the
command line said; options the file does not mention keep their command-line value -/
theorem mergeConfig_config_wins (args config settings : Dict) (hnd : (keys config).Nodup) :
    (∀ k v, lookup config k = some v → lookup (mergeConfig args config settings).1 k = some v) ∧
    (∀ k, hasKey config k = false → lookup (mergeConfig args config settings).1 k = lookup args k) :=
  ⟨fun k v h => merge_hard_second_wins args config k v hnd h,
   fun k h => merge_hard_not_in_second args config k h⟩

/-- **mergeConfig_settings_override_not_persisted**: for that run the package settings take the file's
value exactly for the parameters they already have — no key is added or removed — and `mergeConfig`
returns in-memory values only (the model has no file component: nothing is written). -/
theorem mergeConfig_settings_override_not_persisted (args config settings : Dict) :
    keys (mergeConfig args config settings).2 = keys settings ∧
    ∀ k, lookup (mergeConfig args config settings).2 k =
      match lookup settings k with
      | none => none
      | some v => some ((lookup config k).getD v) :=
  ⟨keys_updateExisting _ _, fun k => lookup_updateExisting _ _ k⟩

inductive Op
  | set (args : List String)
  | resetSub (ps : List String)
  | resetAll
  | merge (other : Dict) (soft : Bool)
  | upgrade

def applyOp (defaults cfg : Dict) : Op → Except Err Dict
  | .set args => setConfig cfg args
  | .resetSub ps => .ok (resetSubset defaults cfg ps)
  | .resetAll => .ok defaults
  | .merge other soft => .ok (mergeDicts cfg other soft)
  | .upgrade => .ok (upgrade defaults cfg)

def applyOps (defaults : Dict) : Dict → List Op → Except Err Dict
  | cfg, [] => .ok cfg
  | cfg, op :: ops => match applyOp defaults cfg op with
    | .ok c => applyOps defaults c ops
    | .error e => .error e

def Op.isEdit : Op → Bool
  | .set _ => true | .resetSub _ => true | _ => false

theorem applyOp_edit_keys (defaults cfg c : Dict) (op : Op) (hop : op.isEdit = true)
    (hall : ∀ k, hasKey defaults k = true → hasKey cfg k = true) (h : applyOp defaults cfg op = .ok c) :
    keys c = keys cfg := by
  cases op with
  | set args => exact setConfig_keys args cfg c h
  | resetSub ps => cases h; exact resetSubset_keys defaults ps cfg hall
  | _ => cases hop

theorem applyOp_default_keys (defaults cfg c : Dict) (op : Op)
    (hall : ∀ k, hasKey defaults k = true → hasKey cfg k = true) (h : applyOp defaults cfg op = .ok c) :
    ∀ k, hasKey defaults k = true → hasKey c k = true := by
  intro k hk
  by_cases hop : op.isEdit = true
  · rw [hasKey_iff_mem_keys, applyOp_edit_keys defaults cfg c op hop hall h, ← hasKey_iff_mem_keys]
    exact hall k hk
  · cases op with
    | resetAll => cases h; exact hk
    | merge o s => cases h; exact merge_hasKey_first cfg o s k (hall k hk)
    | upgrade => cases h; exact merge_hasKey_first cfg defaults true k (hall k hk)
    | _ => exact absurd rfl hop

theorem applyOps_induction {defaults : Dict} {P : Dict → Prop} {ops : List Op}
    (hstep : ∀ op ∈ ops, ∀ cfg c, P cfg → applyOp defaults cfg op = .ok c → P c) :
    ∀ cfg out, P cfg → applyOps defaults cfg ops = .ok out → P out := by
  induction ops with
  | nil => intro cfg out h0 h; cases h; exact h0
  | cons op ops ih =>
    intro cfg out h0 h
    rw [applyOps] at h
    split at h
    · next c hc => exact ih (fun o ho => hstep o (by simp [ho])) c out (hstep op (by simp) cfg c h0 hc) h
    · cases h

/-- over any history of `set` and `reset <subset>` operations on a config that has every default key the key list
never changes -/
theorem history_set_reset_keys_invariant (defaults : Dict) (ops : List Op) (hops : ∀ o ∈ ops, o.isEdit = true) :
    ∀ cfg out, (∀ k, hasKey defaults k = true → hasKey cfg k = true) →
      applyOps defaults cfg ops = .ok out → keys out = keys cfg := by
  intro cfg out hall h
  -- carried along: every default key is present (a `reset <subset>` keeps the key list only then)
  refine (applyOps_induction (P := fun c => (∀ k, hasKey defaults k = true → hasKey c k = true) ∧ keys c = keys cfg)
    (fun op hop c c' hc hc' => ⟨?_, ?_⟩) cfg out ⟨hall, rfl⟩ h).2
  · exact applyOp_default_keys defaults c c' op hc.1 hc'
  · exact (applyOp_edit_keys defaults c c' op (hops op hop) hc.1 hc').trans hc.2

/-- over any history of set / reset / merge (soft and hard) / upgrade operations every default key stays present -/
theorem history_default_keys_stay (defaults : Dict) (ops : List Op) :
    ∀ cfg out, (∀ k, hasKey defaults k = true → hasKey cfg k = true) →
      applyOps defaults cfg ops = .ok out → ∀ k, hasKey defaults k = true → hasKey out k = true :=
  applyOps_induction fun op _ cfg c => applyOp_default_keys defaults cfg c op

/-- An untyped group, for `generate_groups`, which is about `generate` alone: any option token, no option
table, and `expected` may fail where `convGen` does.  `TGroup`/`foldGroups` of Lemmas/Config.lean are the typed
counterpart for the comparison with argparse (`generate_equiv_args`): the option is an entry of the table,
the token is `--name`, and only values on which both readers succeed are admitted, so the fold is total. -/
structure Group where
  opt : String
  vals : List String

def Group.render (g : Group) : List String := g.opt :: g.vals

/-- well-formed: the option token is an option for `generate` (starts with `-`, not a number), the
values are not (they do not start with `-`, or they are numbers) -/
def Group.WF (g : Group) : Prop := isOptionTok g.opt = true ∧ ∀ v ∈ g.vals, isOptionTok v = false

/-- the config entry `generate` must produce for a group -/
def Group.value (g : Group) : Except Err JVal :=
  if g.vals.isEmpty then pure (.atom (.bool true))
  else do let vals ← g.vals.mapM convGen; pure (scalarOrList vals)

def expected : List Group → Dict → Except Err Dict
  | [], d => pure d
  | g :: gs, d => do let v ← g.value; expected gs (setKey d (stripDashes g.opt) v)

/-- **generate_groups** (the `generate` half of `generate ≡ args`): for every well-formed list of
option groups — flags, single values, several values; integers, negative numbers, floats, strings —
`generate` yields exactly one entry per group: `true` for a flag, the value(s) converted by
`to_number` otherwise (integers stay integers, negative numbers are values). -/
theorem generate_groups (gs : List Group) (hwf : ∀ g ∈ gs, g.WF) (d : Dict) :
    generateWith isOptionTok convGen (gs.flatMap Group.render) d = expected gs d := by
  induction gs generalizing d with
  | nil => rfl
  | cons g gs ih =>
    have hwf' : ∀ g ∈ gs, g.WF := fun g' hg' => hwf g' (by simp [hg'])
    have hrest : (gs.flatMap Group.render).takeWhile (fun t => !isOptionTok t) = [] := by
      cases gs with
      | nil => rfl
      | cons g' _ => simp [Group.render, (hwf' g' (by simp)).1]
    rw [List.flatMap_cons, Group.render, generateWith_group _ _ _ _ _ _ (hwf g (by simp)).1 (hwf g (by simp)).2 hrest]
    simp only [expected, Group.value]
    split
    · exact ih hwf' _
    · cases g.vals.mapM convGen with
      | error e => rfl
      | ok vals => exact ih hwf' _

/-- integer tokens stay integers, whatever their size; other numeric tokens become that float -/
theorem generate_value_int (tok : String) (i : Int) (hn : isNumber tok = true) (hi : parseInt tok = some i) :
    convGen tok = .ok (.int i) := by
  simp [convGen, hn, hi, pure, Except.pure]

theorem generate_value_float (tok : String) (x : Rat) (hn : isNumber tok = true) (hi : parseInt tok = none)
    (hx : toFloat tok = .ok x) : convGen tok = .ok (.flt x) := by
  simp [convGen, hn, hi, hx, pure, Except.pure, bind, Except.bind]

/-- a numeric token is never read as an option: negative numbers are values -/
theorem number_is_not_option (tok : String) (hn : isNumber tok = true) : isOptionTok tok = false := by
  simp [isOptionTok, hn]

theorem optApprox_refl (x : Option JVal) : optApprox x x = true := by
  cases x <;> simp [optApprox, valApprox_refl]

/-- **generate_equiv_args**: for every well-formed long-option token list over an option table `T`
(well-formedness is the decidable predicate `wfGroup`: every option is an entry of the table whose token
`--name` is read as that option by both readers — `tokOk`, a closed fact checked for the regenerated
tables below —, the arity of the option is respected — none for a flag, one for a scalar, `n ≥ 2` for
`nargs=n` —, and every value token is in the modelled class of the option's type — `valOk`), and no two
members of a mutually exclusive group given:
`generate` succeeds, argparse accepts the list, and the namespace obtained from the defaults through
`merge_config` with the generated config agrees entry by entry with the namespace argparse produces
from the arguments (`≈`, `valApprox`: equal, or an integer next to the same value as a float).
Excluded token classes (outside `valOk`, see its definition): string options given a numeric-looking
value, integer tokens not exactly representable given to float options, negative numbers in exponent
notation and other tokens starting with `-` that are not `-d+` / `-d*.d+`, `nan`/`inf`/`_`/white-space
spellings, values overflowing binary64, short options, `nargs=1`, `nargs='+'` (no such option exists). -/
theorem generate_equiv_args (T : List Opt) (excl : List (List String)) (gs : List TGroup)
    (hgs : ∀ g ∈ gs, wfGroup T g = true) (hex : exclFree excl (gs.flatMap TGroup.render) = true) :
    ∃ c a, generate (gs.flatMap TGroup.render) = .ok c ∧
      argparseLong T (gs.flatMap TGroup.render) (defaultsOf T) excl = some a ∧
      ∀ k, optApprox (lookup (mergeConfig (defaultsOf T) c []).1 k) (lookup a k) = true := by
  refine ⟨foldGroups genValue gs [], foldGroups argValue gs (defaultsOf T),
    generateWith_groups T gs hgs [], argparseLong_groups T excl gs hgs hex _, fun k => ?_⟩
  have hc := lookup_foldGroups genValue gs k []
  have hnd : (keys (foldGroups genValue gs [])).Nodup := keys_nodup_foldGroups _ gs [] (by simp [keys])
  have hap := lastVal_approx T gs hgs k
  rw [mergeConfig, lookup_foldGroups argValue gs k (defaultsOf T)]
  -- both readers store the value of the same group last, or none
  simp only [lastVal_eq] at hc hap ⊢
  generalize gs.findRev? _ = o at hc hap ⊢
  cases o with
  | some g => rw [merge_hard_second_wins _ _ k _ hnd hc]; exact hap
  | none =>
    rw [merge_hard_not_in_second _ _ k (by simp [hasKey, hc, lookup])]
    exact optApprox_refl _

/-- no parser declares a long option twice (one evaluation: the three tables share most names) -/
theorem option_names_nodup : (Gen.apeOptions.map (·.name)).Nodup ∧ (Gen.rpeOptions.map (·.name)).Nodup ∧
    (Gen.trajOptions.map (·.name)).Nodup := by
  decide +kernel

/-- the closed side condition of `generate_equiv_args` holds for every entry of the three regenerated tables -/
theorem option_tokens_ok :
    (∀ o ∈ Gen.apeOptions, tokOk Gen.apeOptions o = true) ∧
    (∀ o ∈ Gen.rpeOptions, tokOk Gen.rpeOptions o = true) ∧
    (∀ o ∈ Gen.trajOptions, tokOk Gen.trajOptions o = true) :=
  ⟨fun _ => tokOk_of_nodup option_names_nodup.1, fun _ => tokOk_of_nodup option_names_nodup.2.1,
   fun _ => tokOk_of_nodup option_names_nodup.2.2⟩

/-- `generate_equiv_args` for the regenerated option tables of evo_ape, evo_rpe and evo_traj: the
well-formedness condition reduces to "option of the table, arity respected, values in the modelled classes" -/
theorem generate_equiv_args_evo (T : List Opt) (excl : List (List String))
    (hT : (T = Gen.apeOptions ∧ excl = Gen.apeExclusive) ∨ (T = Gen.rpeOptions ∧ excl = Gen.rpeExclusive) ∨
          (T = Gen.trajOptions ∧ excl = Gen.trajExclusive))
    (gs : List TGroup)
    (hgs : ∀ g ∈ gs, g.opt ∈ T ∧ arityOk g.opt g.vals = true ∧ g.vals.all (valOk g.opt) = true)
    (hex : exclFree excl (gs.flatMap TGroup.render) = true) :
    ∃ c a, generate (gs.flatMap TGroup.render) = .ok c ∧
      argparseLong T (gs.flatMap TGroup.render) (defaultsOf T) excl = some a ∧
      ∀ k, optApprox (lookup (mergeConfig (defaultsOf T) c []).1 k) (lookup a k) = true := by
  apply generate_equiv_args T excl gs _ hex
  intro g hg
  obtain ⟨hm, har, hv⟩ := hgs g hg
  have htok : tokOk T g.opt = true := by
    rcases hT with ⟨h, _⟩ | ⟨h, _⟩ | ⟨h, _⟩ <;> subst h
    · exact option_tokens_ok.1 _ hm
    · exact option_tokens_ok.2.1 _ hm
    · exact option_tokens_ok.2.2 _ hm
  simp [wfGroup, htok, har, hv]

def groupsOf (T : List Opt) (l : List (String × List String)) : List TGroup :=
  l.filterMap fun p => (T.find? (fun o => o.name = p.1)).map fun o => ⟨o, p.2⟩

/-- non-vacuity of `generate_equiv_args`: the argument list of finding F3, the documented example and a two-value
option are well-formed (`length`: every name is found in the table) -/
theorem generate_equiv_args_instances :
    (∀ l ∈ [[("downsample", ["500"]), ("t_offset", ["-0.5"]), ("n_to_align", ["-1"])],
            [("align", []), ("plot", []), ("plot_mode", ["xz"]), ("verbose", [])],
            [("motion_filter", ["0.5", "-3"]), ("t_max_diff", ["1"]), ("save_plot", ["out.pdf"])]],
      (groupsOf Gen.apeOptions l).length = l.length ∧
      (groupsOf Gen.apeOptions l).all (wfGroup Gen.apeOptions) = true ∧
      exclFree Gen.apeExclusive ((groupsOf Gen.apeOptions l).flatMap TGroup.render) = true) ∧
    -- outside the modelled classes: a numeric-looking string, an exponent-notation negative number
    (groupsOf Gen.apeOptions [("save_plot", ["2024"])]).all (wfGroup Gen.apeOptions) = false ∧
    (groupsOf Gen.apeOptions [("t_offset", ["-1e-3"])]).all (wfGroup Gen.apeOptions) = false := by
  -- of `tokOk` only the table lookup is left to evaluate
  rw [show wfGroup Gen.apeOptions = _ from funext fun g => by rw [wfGroup, tokOk_eq]]
  decide +kernel

/-! ## the pinned code before fix 70efe12 (finding F3): kernel-checked counterexamples -/

/-- **generate_int_counterexample**: `--downsample 500 ↦ 500.0` (evo_ape -c then fails in linspace) -/
theorem generate_int_counterexample :
    (generateOld ["--downsample", "500"]).toOption = some [("downsample", .atom (.flt 500))] ∧
    (generate ["--downsample", "500"]).toOption = some [("downsample", .atom (.int 500))] := by
  decide +kernel

/-- **generate_negative_counterexample**: `--t_offset -0.5` was read as two flags -/
theorem generate_negative_counterexample :
    (generateOld ["--t_offset", "-0.5"]).toOption
      = some [("t_offset", .atom (.bool true)), ("0.5", .atom (.bool true))] ∧
    (generate ["--t_offset", "-0.5"]).toOption = some [("t_offset", .atom (.flt (-1/2)))] := by
  decide +kernel

/-! ## the regenerated tables -/

/-- every long option of the three parsers stores under its own name, with an action the model covers -/
theorem option_tables_modelled :
    Gen.apeUnmodelled = [] ∧ Gen.rpeUnmodelled = [] ∧ Gen.trajUnmodelled = [] := by decide

/-- the settings keys of `DEFAULT_SETTINGS_DICT` are pairwise distinct (`Gen.defaultKeys` lists them in order) -/
theorem default_keys_nodup : Gen.defaultKeys.Nodup ∧ keys Gen.defaultSettings = Gen.defaultKeys :=
  ⟨by decide +kernel, rfl⟩

/-! ## `-c` overrides reach the code that uses the setting (finding F16) -/

/-- **a key given in the -c file is what the run uses**: a function that reads the setting when it is called sees the
value of the `-c` file for every key the file and the settings share (the repaired `save_df_as_table`) -/
theorem config_override_reaches_call (args config settings : Dict) (key : String) (v : JVal)
    (hk : (lookup settings key).isSome) (hc : lookup config key = some v) :
    settingReadAtCall key settings (mergeConfig args config settings).2 = some v := by
  unfold settingReadAtCall mergeConfig
  simp only [lookup_updateExisting]
  cases hs : lookup settings key with
  | none => simp [hs] at hk
  | some w => simp [hc]

/-- F16, kernel-checked: a default argument bound at import ignores the override (`table_export_format`: csv in
settings.json, json in the -c file — the pre-fix `evo_res --save_table` wrote csv) -/
theorem f16_counterexample :
    let settings : Dict := [("table_export_format", .atom (.str "csv"))]
    let config : Dict := [("table_export_format", .atom (.str "json"))]
    let run := (mergeConfig [] config settings).2
    settingBoundAtImport "table_export_format" settings run = some (.atom (.str "csv")) ∧
    settingReadAtCall "table_export_format" settings run = some (.atom (.str "json")) := by
  decide +kernel

/-! ## non-vacuity -/

example : (setConfig Gen.defaultSettings ["plot_split", "plot_linewidth", "3", "plot_statistics", "none"]).toOption.map
    (fun d => (lookup d "plot_split", lookup d "plot_linewidth", lookup d "plot_statistics"))
    = some (some (.atom (.bool true)), some (.atom (.int 3)), some (.list [])) := by decide +kernel

example : (setConfig Gen.defaultSettings ["plot_split", "FALSE", "plot_reference_alpha", "0.25"]).toOption.map
    (fun d => (lookup d "plot_split", lookup d "plot_reference_alpha"))
    = some (some (.atom (.bool false)), some (.atom (.flt (1/4)))) := by decide +kernel

example : (Group.mk "--t_offset" ["-0.5"]).WF := by
  constructor
  · decide +kernel
  · intro v hv; simp at hv; subst hv; decide +kernel

end Evo.C18
