/-
C19 — the settings file stays loadable across crashes and concurrent starts.

Model: `Model/FS.lean`, `Model/SettingsProc.lean` (programs of atomic file-system steps exactly as
evo/tools/settings.py and evo/main_config.py issue them after fix 703b53e; a run = any finite
schedule of any number of processes; a process that is no longer scheduled has been killed there;
a `write` may be torn).  Helper lemmas (soundness of the write discipline `Ok`): `Lemmas/FS.lean`.
The tie of the programs to /repo is the trace correspondence of harness/props/C19.py.
-/
import EvoModel.Lemmas.FS
import EvoModel.Drv.C19
namespace Evo.C19
open Evo Evo.FS

/-- what must be known when a program ends: the loaded SETTINGS has every default key -/
def Loaded (F : Facts) : Prop := F.loaded = true

/-- what is known after `import evo` (and kept by every command) -/
structure Ready (F : Facts) : Prop where
  dir : F.dir = true
  exS : F.ex .S = true
  exV : F.ex .V = true
  sGood : F.sGood = true
  loaded : F.loaded = true

/-! ## the routines of the repaired code follow the write discipline -/

theorem writeS_accepted {post : Facts → Prop} {k : Prog} {s : Src} (hk : ∀ F, Ready F → Ok post F k) (F : Facts)
    (hd : F.dir = true) (hV : F.ex .V = true) (hl : F.loaded = true) (hs : SrcOk F .S s) :
    Ok post F (writeAtomic .S s k) :=
  .writeAtomic hd hs nofun (hk _ ⟨hd, rfl, hV, rfl, hl⟩)

theorem update_load_accepted {post : Facts → Prop} {k : Prog} (hk : ∀ F, Ready F → Ok post F k) (F : Facts)
    (hd : F.dir = true) (hS : F.ex .S = true) (hV : F.ex .V = true) : Ok post F (update (load k)) :=
  have hl (G : Facts) (hd : G.dir = true) (hS : G.ex .S = true) (hV : G.ex .V = true) (hg : G.sGood = true) :
      Ok post G (load k) := ⟨hS, hk _ ⟨hd, hS, hV, hg, hg⟩⟩
  ⟨hV, hl _ hd hS hV rfl, hS,
    .writeAtomic hd rfl nofun (.writeAtomic hd trivial (fun _ => rfl) (hl _ hd rfl rfl rfl))⟩

/-- `initialize_if_needed(); update_if_outdated(); load` followed by any accepted command -/
theorem start_accepted {post : Facts → Prop} {k : Prog} (hk : ∀ F, Ready F → Ok post F k) :
    Ok post {} (start k) :=
  have hu := update_load_accepted hk
  have hS (F : Facts) (hd : F.dir = true) (hV : F.ex .V = true) :
      Ok post F (.ifExists .S (update (load k)) (resetAll (update (load k)))) :=
    ⟨hu _ hd rfl hV, .writeAtomic hd trivial nofun (hu _ hd rfl hV), .writeAtomic hd trivial nofun (hu _ hd rfl hV)⟩
  ⟨hS _ rfl rfl, .writeAtomic rfl trivial (fun _ => rfl) (hS _ rfl rfl)⟩

theorem done_accepted (F : Facts) (hF : Ready F) : Ok Loaded F .done := hF.loaded

theorem resetAll_accepted {post : Facts → Prop} {k : Prog}
    (hk : ∀ F, Ready F → Ok post F k) (F : Facts) (hF : Ready F) : Ok post F (resetAll k) :=
  ⟨writeS_accepted hk _ hF.dir hF.exV hF.loaded trivial, writeS_accepted hk _ hF.dir hF.exV hF.loaded trivial⟩

/-- `set_config` with any edit that keeps the keys (C18 `set_keys_invariant`) -/
theorem setConfig_accepted {post : Facts → Prop} {k : Prog} {f : Doc → Doc} (hf : KeyMono f)
    (hk : ∀ F, Ready F → Ok post F k) (F : Facts) (hF : Ready F) : Ok post F (setConfig f k) :=
  ⟨hF.exS, writeS_accepted hk _ hF.dir hF.exV hF.loaded ⟨hF.sGood, hf⟩⟩

theorem resetSubset_accepted {post : Facts → Prop} {k : Prog} {f : Doc → Doc} (hf : KeyMono f)
    (hk : ∀ F, Ready F → Ok post F k) (F : Facts) (hF : Ready F) : Ok post F (resetSubset f k) :=
  ⟨⟨rfl, writeS_accepted hk _ hF.dir hF.exV hF.loaded ⟨hF.sGood, hf⟩⟩,
   writeS_accepted hk _ hF.dir hF.exV hF.loaded trivial⟩

/-- `merge_json_union` (soft or hard: the key set only grows, C18 `merge_hard_soft_semantics`) -/
theorem mergeUnion_accepted {post : Facts → Prop} {k : Prog} {f : Doc → Doc} (hf : KeyMono f)
    (hk : ∀ F, Ready F → Ok post F k) (F : Facts) (hF : Ready F) : Ok post F (mergeUnion f k) :=
  setConfig_accepted (k := k) hf hk F hF

theorem showCfg_accepted {post : Facts → Prop} {k : Prog}
    (hk : ∀ F, Ready F → Ok post F k) (F : Facts) (hF : Ready F) : Ok post F (showCfg k) :=
  ⟨hF.exS, hk F hF⟩

theorem keyMono_id : KeyMono id := fun _ h => h

theorem keyMono_mergeEdit : KeyMono Drv.C19.mergeEdit := fun _ h =>
  hasDefaults_iff.mpr ((hasDefaults_iff.mp h).trans (List.subset_append_left _ _))

/-- every scenario program the trace correspondence ties to /repo is accepted (one bullet per row of
`Drv.C19.scenario`, in the order of that table; its last three rows give no "new" program) -/
theorem traced_programs_accepted (name : String) (prog : Prog)
    (h : Drv.C19.scenario "new" name = some prog) : Ok Loaded {} prog := by
  unfold Drv.C19.scenario at h
  split at h
  · cases h; exact start_accepted done_accepted
  · cases h; exact start_accepted (resetAll_accepted done_accepted)
  · cases h; exact start_accepted (resetSubset_accepted keyMono_id done_accepted)
  · cases h; exact start_accepted (setConfig_accepted keyMono_id done_accepted)
  · cases h; exact start_accepted (mergeUnion_accepted keyMono_mergeEdit done_accepted)
  · cases h; exact start_accepted (showCfg_accepted (setConfig_accepted keyMono_id (showCfg_accepted done_accepted)))
  · cases h; exact start_accepted (showCfg_accepted (setConfig_accepted keyMono_id
      (mergeUnion_accepted keyMono_mergeEdit (showCfg_accepted done_accepted))))
  · cases h; exact start_accepted (resetAll_accepted (showCfg_accepted done_accepted))
  · cases h; exact start_accepted (resetSubset_accepted keyMono_id (showCfg_accepted done_accepted))
  · cases h; exact start_accepted (showCfg_accepted (setConfig_accepted keyMono_id (showCfg_accepted
      (resetSubset_accepted keyMono_id (showCfg_accepted done_accepted)))))
  · cases h; exact start_accepted (setConfig_accepted keyMono_id (resetSubset_accepted keyMono_id
      (setConfig_accepted keyMono_id done_accepted)))
  all_goals simp_all

/-- the pinned code before the fix does not follow the discipline (it opens the shared file for writing) -/
theorem old_start_rejected (post : Facts → Prop) (k : Prog) : ¬ Ok post {} (Old.start k) := by
  simp [Old.start, Old.initProg, Ok]

/-! ## the invariant over all runs -/

/-- **safe_init**: a consistent home (in particular an empty one) with any number of processes
about to run accepted programs satisfies the invariant, hence `Safe`. -/
theorem safe_init {post : Facts → Prop} (s : State) (h : Init post s) : PInv post s ∧ Safe s.fs :=
  ⟨init_pinv h, h.1.1⟩

theorem fresh_consistent : Consistent FS.fresh := ⟨Or.inl rfl, fun _ => Or.inl rfl⟩

/-- **step_preserves_safe**: every step of every routine — whichever process takes it, torn or not,
whoever else has written in between — keeps the invariant, hence `Safe`. -/
theorem step_preserves_safe {post : Facts → Prop} (s : State) (h : PInv post s) (i : Nat) (tear : Bool) :
    PInv post (s.sched i tear) ∧ Safe (s.sched i tear).fs :=
  ⟨(sched_pinv h i tear).1, (sched_pinv h i tear).1.1.1⟩

/-- **reachable_safe**: at every instant of every run (any number of processes, any interleaving,
any crash points — a killed process is one that is not scheduled again), the settings file is
absent or a complete JSON document. -/
theorem reachable_safe {post : Facts → Prop} (s : State) (h : Init post s) (sched : List (Nat × Bool)) :
    Safe (run s sched).fs :=
  (run_pinv sched (init_pinv h)).1.1

/-- once every default key is present (or the file is still absent) this stays so -/
theorem reachable_good {post : Facts → Prop} (s : State) (h : Init post s) (hg : Good s.fs)
    (sched : List (Nat × Bool)) : Good (run s sched).fs := by
  have hp := init_pinv h
  clear h
  induction sched generalizing s with
  | nil => exact hg
  | cons e rest ih => exact ih _ ((sched_pinv hp e.1 e.2).2 hg) (sched_pinv hp e.1 e.2).1

/-- **no_process_fails**: in no run does any process fail (no FileExistsError from `mkdir`, no
FileNotFoundError, no JSONDecodeError), whatever the others do or wherever they are killed. -/
theorem no_process_fails {post : Facts → Prop} (s : State) (h : Init post s) (sched : List (Nat × Bool))
    (p : Proc) (hp : p ∈ (run s sched).procs) : p.failed = false := by
  obtain ⟨j, hj⟩ := List.getElem?_of_mem hp
  exact ((run_pinv sched (init_pinv h)).2 j p hj).1

theorem done_loaded {s : State} (h : PInv Loaded s) {j : Nat} {p : Proc} (hp : s.procs[j]? = some p)
    (hd : p.prog = .done) : ∃ d, p.regs.loaded = some d ∧ hasDefaults d = true := by
  obtain ⟨_, F, hok, hh⟩ := h.2 j p hp
  rw [hd] at hok
  exact hh.loaded hok

/-- every process that reaches its end has loaded a SETTINGS with every default key -/
theorem finished_process_sees_all_keys (s : State) (h : Init Loaded s) (sched : List (Nat × Bool))
    (j : Nat) (p : Proc) (hp : (run s sched).procs[j]? = some p) (hd : p.prog = .done) :
    ∃ d, p.regs.loaded = some d ∧ hasDefaults d = true :=
  done_loaded (run_pinv sched (init_pinv h)) hp hd

theorem size_zero_done (p : Prog) (h : p.size = 0) : p = .done := by
  cases p <;> simp [Prog.size] at h ⊢

theorem sched_self (s : State) (j : Nat) (tear : Bool) (p : Proc) (hp : s.procs[j]? = some p) :
    (s.sched j tear).procs[j]? = some (step j tear p s.fs).1 := by
  obtain ⟨hlt, rfl⟩ := List.getElem?_eq_some_iff.mp hp
  simp [State.sched, hlt]

theorem solo_finishes {post : Facts → Prop} (n : Nat) (s : State) (h : PInv post s) (j : Nat) (p : Proc)
    (hp : s.procs[j]? = some p) (hn : p.prog.size ≤ n) :
    ∃ q, (run s (List.replicate n (j, false))).procs[j]? = some q ∧ q.prog = .done ∧ q.failed = false := by
  induction n generalizing s p with
  | zero => exact ⟨p, hp, size_zero_done _ (Nat.le_zero.mp hn), (h.2 j p hp).1⟩
  | succ n ih =>
    have h' := (sched_pinv h j false).1
    have hp' := sched_self s j false p hp
    have := step_size j false p s.fs (h'.2 j _ hp').1
    exact ih (s.sched j false) h' _ hp' (by omega)

/-- **start_after_any_run_loads**: after any run from a consistent home — whatever was interleaved
or killed before — any process (in particular one that has not started yet: a fresh
`initialize; update; load`) that is now left to run terminates, does not fail, and has loaded
every default key. -/
theorem start_after_any_run_loads (s : State) (h : Init Loaded s) (sched : List (Nat × Bool))
    (j : Nat) (p : Proc) (hp : (run s sched).procs[j]? = some p) :
    ∃ q, (run (run s sched) (List.replicate p.prog.size (j, false))).procs[j]? = some q ∧
      q.prog = .done ∧ q.failed = false ∧ ∃ d, q.regs.loaded = some d ∧ hasDefaults d = true := by
  have hinv := run_pinv sched (init_pinv h)
  obtain ⟨q, hq, hd, hnf⟩ := solo_finishes _ _ hinv j p hp (Nat.le_refl _)
  exact ⟨q, hq, hd, hnf, done_loaded (run_pinv _ hinv) hq hd⟩

/-! ## every stored version string other than the current one counts as outdated -/

/-- a home whose assets_version holds *any* string other than `__version__` — older, newer,
lexicographically larger ("v1.9.0" > "v1.31.1"), with trailing white space, empty text of a complete
file — next to a complete (possibly older, key-lacking) settings.json or none is `Consistent`: all the
theorems above apply to it. -/
theorem outdated_home_consistent (fs : FS) (v : String) (hv : v ≠ current)
    (hV : fs.file (.file .V) = .full (.ver v)) (hS : Safe fs) : Consistent fs := by
  refine ⟨hS, fun h => ?_⟩
  rcases h with h | h
  · rw [hV] at h; cases h
  · rw [hV] at h; exact absurd (by injection h with h; injection h) hv

/-! The concrete runs from here on schedule one process a fixed number of times; a process that is done or has
failed does not step any more, so the number only has to reach the end of the path taken.  `start` takes 14 steps
when it writes both files (empty home: `mkdir`, 3 `exists` tests, 2 × 4 for `write_atomically`, the version
comparison, the load; outdated home: the same, with the read of the old settings in place of the third test),
9 when only the version file is missing, 5 when nothing is written.  The old `start` has truncated
settings.json after 9 steps on an empty home, the old `evo_config set` after 7 (5 of `start`, the read, the `open`). -/

/-- **every_outdated_version_is_upgraded**: whatever string ≠ `__version__` is stored, a start merges
the defaults into the settings (`upgrade d` has every default key and keeps the user's keys), stamps the
current version, and loads every default key — decided by string *inequality*, exactly as the code does. -/
theorem every_outdated_version_is_upgraded (fs : FS) (v : String) (d : Doc) (hv : v ≠ current)
    (hd : fs.dir = true) (hV : fs.file (.file .V) = .full (.ver v)) (hS : fs.file (.file .S) = .full (.doc d)) :
    let s := run ⟨fs, [⟨start .done, {}, false⟩]⟩ (List.replicate 14 (0, false))
    s.procs.map (fun p => (p.failed, p.prog.isDone, p.regs.loaded)) = [(false, true, some (upgrade d))] ∧
    s.fs.file (.file .S) = .full (.doc (upgrade d)) ∧ s.fs.file (.file .V) = .full (.ver current) ∧
    hasDefaults (upgrade d) = true := by
  -- `hd` is not needed: the first step is `mkdir(exist_ok=True)`
  have _ := hd
  simp [run, State.sched, step, start, initProg, update, load, resetAll, writeAtomic, hV, hS, hv,
    List.replicate, PRef.path, Src.text, Regs.put, Prog.isDone, FS.set, hasDefaults_upgrade]

/-- stamps of the kinds named above do differ from `__version__` -/
example : ("v1.9.0" ≠ current) ∧ ("v1.5.0" ≠ current) ∧ ("v9" ≠ current) ∧ ("z" ≠ current) ∧
    ("v1.31.10" ≠ current) ∧ ("v1.31.1 " ≠ current) ∧ ("v1.31.1\n" ≠ current) ∧ ("" ≠ current) := by decide

/-! ## the precondition `Consistent` is necessary -/

/-- **inconsistent_home_stays_incomplete**: a home that evo itself cannot have left behind — a complete
settings.json that lacks default keys next to a *missing* or a *current* assets_version (e.g. the
version file was deleted by hand) — is not `Consistent`, and a start of the repaired code neither
fails nor repairs it: no upgrade is triggered, the process ends with a SETTINGS that lacks those
keys, and the file stays as it was (so every later start sees the same).  Hence "every default key
is loaded" cannot be proved without the precondition; `Safe` (absent or complete JSON) still holds. -/
theorem inconsistent_home_stays_incomplete (fs : FS) (d : Doc) (hd : fs.dir = true)
    (hS : fs.file (.file .S) = .full (.doc d)) (hlack : hasDefaults d = false)
    (hV : fs.file (.file .V) = .absent ∨ fs.file (.file .V) = .full (.ver current)) :
    ¬ Consistent fs ∧ Safe fs ∧
    (let s := run ⟨fs, [⟨start .done, {}, false⟩]⟩ (List.replicate 9 (0, false))
     s.procs.map (fun p => (p.failed, p.prog.isDone, p.regs.loaded)) = [(false, true, some d)] ∧
     s.fs.file (.file .S) = .full (.doc d) ∧ s.fs.file (.file .V) = .full (.ver current)) := by
  -- `hd` is not needed, as in `every_outdated_version_is_upgraded`
  have _ := hd
  refine ⟨?_, Or.inr (by simp [hS, File.isDoc]), ?_⟩
  · intro hc
    rcases hc.2 hV with h | h
    · rw [hS] at h; cases h
    · rw [hS] at h; simp [File.wf, hlack] at h
  · rcases hV with hV | hV <;>
      simp [run, State.sched, step, start, initProg, update, load, resetAll, writeAtomic, hV, hS,
        List.replicate, PRef.path, Src.text, Regs.put, Prog.isDone]

/-! ## non-vacuity: concrete runs of the repaired programs -/

/-- the hypotheses of `inconsistent_home_stays_incomplete` are satisfiable -/
example : hasDefaults (Evo.Gen.defaultKeys.drop 3) = false := by decide +kernel


/-- two first starts on an empty home form an initial state -/
example : Init Loaded ⟨FS.fresh, [⟨start .done, {}, false⟩, ⟨start .done, {}, false⟩]⟩ :=
  ⟨fresh_consistent, fun p hp => by
    simp only [List.mem_cons, List.not_mem_nil, or_false, or_self] at hp
    subst hp; exact ⟨rfl, start_accepted done_accepted⟩⟩

/-- first start alone on an empty home: 14 steps, then settings.json is the complete default document -/
example : ((run ⟨FS.fresh, [⟨start .done, {}, false⟩]⟩ (List.replicate 14 (0, false))).fs.file (.file .S)).wf = true :=
  -- the run evaluates to the default document; that it holds every default key is `hasDefaults_defaults`
  -- (here and below: evaluating `hasDefaults` would compare the keys pairwise, which is slow to check)
  show (File.full (.doc Gen.defaultKeys)).wf = true from hasDefaults_defaults

/-- killed in the middle of the (torn) write of the temp file: settings.json still absent;
the next process initialises and loads -/
example :
    let s := run ⟨FS.fresh, [⟨start .done, {}, false⟩, ⟨start .done, {}, false⟩]⟩
      (List.replicate 9 (0, false) ++ [(0, true)])
    s.fs.file (.file .S) = .absent ∧ s.fs.file (.tmp .S 0) = .torn ∧
    ((run s (List.replicate 14 (1, false))).procs[1]?.map fun p => (p.prog.isDone, p.failed, p.regs.loaded.map hasDefaults))
      = some (true, false, some true) :=
  ⟨rfl, rfl, show some (true, false, some (hasDefaults Gen.defaultKeys)) = _ by rw [hasDefaults_defaults]⟩

/-! ## the pinned code before fix 703b53e: kernel-checked counterexamples (finding F4) -/

/-- **settings_unsafe_crash**: first start of the old code on an empty home, killed after its 9th
step (`open(settings.json,'w')` has truncated, nothing written yet): the file exists and is empty. -/
theorem settings_unsafe_crash :
    let s := run ⟨FS.fresh, [⟨Old.start .done, {}, false⟩]⟩ (List.replicate 9 (0, false))
    s.fs.file (.file .S) = .empty ∧ ¬ Safe s.fs := by
  decide

/-- the same with a torn write: a proper prefix of the JSON text is on disk -/
theorem settings_unsafe_torn :
    let s := run ⟨FS.fresh, [⟨Old.start .done, {}, false⟩]⟩ (List.replicate 9 (0, false) ++ [(0, true)])
    s.fs.file (.file .S) = .torn ∧ ¬ Safe s.fs := by
  decide

/-- **later_start_fails_forever**: with an empty (or torn) settings.json next to a current version file
every later start — of the old *and* of the repaired code — fails at the load and leaves the home
as it was, so the next one fails as well.  (This is why `Safe` must hold at every instant.) -/
theorem later_start_fails_forever (fs : FS) (hd : fs.dir = true)
    (hV : fs.file (.file .V) = .full (.ver current))
    (hS : fs.file (.file .S) = .empty ∨ fs.file (.file .S) = .torn) :
    (∀ k, let s := run ⟨fs, [⟨Old.start k, {}, false⟩]⟩ (List.replicate 5 (0, false))
      s.procs.map (·.failed) = [true] ∧ s.fs.dir = true ∧ s.fs.file (.file .V) = fs.file (.file .V) ∧
        s.fs.file (.file .S) = fs.file (.file .S)) ∧
    (∀ k, let s := run ⟨fs, [⟨start k, {}, false⟩]⟩ (List.replicate 5 (0, false))
      s.procs.map (·.failed) = [true] ∧ s.fs.dir = true ∧ s.fs.file (.file .V) = fs.file (.file .V) ∧
        s.fs.file (.file .S) = fs.file (.file .S)) := by
  constructor <;> intro k <;> rcases hS with hS | hS <;>
    simp [run, State.sched, step, Old.start, Old.initProg, Old.update, start, initProg, update, load,
      hd, hV, hS, Proc.fail, List.replicate]

/-- **settings_unsafe_race** (load): two first starts of the old code on an empty home; the first has just
truncated settings.json when the second one starts: it sees the file, skips the initialisation and
dies in `json.load`. -/
theorem settings_unsafe_race_load :
    let s := run ⟨FS.fresh, [⟨Old.start .done, {}, false⟩, ⟨Old.start .done, {}, false⟩]⟩
      (List.replicate 9 (0, false) ++ List.replicate 5 (1, false))
    s.procs.map (·.failed) = [false, true] := by
  decide

/-- **settings_unsafe_race** (mkdir): both test `exists()`, both call `mkdir()`: the second raises. -/
theorem settings_unsafe_race_mkdir :
    let s := run ⟨FS.fresh, [⟨Old.start .done, {}, false⟩, ⟨Old.start .done, {}, false⟩]⟩
      [(0, false), (1, false), (0, false), (1, false)]
    s.procs.map (·.failed) = [false, true] := by
  decide

/-- an in-place edit (`evo_config set`) of the old code killed between truncate and write loses the settings -/
theorem old_set_crash_loses_settings :
    let fs0 : FS := ((⟨true, fun _ => .absent⟩ : FS).set (.file .V) (.full (.ver current))).set (.file .S)
      (.full (.doc Evo.Gen.defaultKeys))
    let s := run ⟨fs0, [⟨Old.start (Old.setConfig id .done), {}, false⟩]⟩ (List.replicate 7 (0, false))
    Consistent fs0 ∧ s.fs.file (.file .S) = .empty :=
  ⟨⟨Or.inr rfl, fun _ => Or.inr hasDefaults_defaults⟩, rfl⟩

end Evo.C19
