/-
C20 — plots draw the trajectory's own coordinates on the labelled axes.
Property theorems about `Evo.Plot` (model of the artist data produced by evo/tools/plot.py) and
about the tables regenerated from the source on every run (`Gen/PlotModes.lean`).
The claim ends at the data handed to matplotlib.
-/
import EvoModel.Lemmas.Plot
import EvoModel.Gen.PlotModes
namespace Evo.C20
open Evo Evo.Plot Evo.Plot.PlotMode

/-- `plot_mode_to_idx`, evaluated on the tree under test for all 7 modes, is the model's `modeIdx` -/
theorem gen_modeIdx_matches_model :
    Gen.PlotModes.modeIdx = PlotMode.all.map (fun m => (m.name, modeIdx m)) := by decide

/-- the labels `prepare_axis` sets, for all 7 modes × 4 length units, are the model's labels -/
theorem gen_axisLabels_match_model :
    Gen.PlotModes.axisLabels =
      lengthUnits.flatMap (fun u => PlotMode.all.map (fun m => (m.name, u, xLabel m u, yLabel m u, zLabel m u))) := by
  decide

/-- the accepted units are the model's `lengthUnits`; the other members of `Unit`, which `prepare_axis` refuses, are
refused by the model too -/
theorem gen_units_match_model :
    Gen.PlotModes.lengthUnits = lengthUnits ∧
    ∀ u ∈ Gen.PlotModes.refusedUnits, ∀ m ∈ PlotMode.all, prepareAxisLabels m u = none := by decide

/-- **axis labels name the plotted axes and the configured unit** (over the regenerated tables): in
every row `(mode, unit, xlabel, ylabel, zlabel)` read back from `prepare_axis`, the x / y / z label is
`$a$ (unit)` with `a` the letter of the coordinate index that `plot_mode_to_idx` selects for that
axis of that mode; there is a z label exactly when there is a z index. -/
theorem labels_name_plotted_axes :
    ∀ row ∈ Gen.PlotModes.axisLabels, ∃ e ∈ Gen.PlotModes.modeIdx, e.1 = row.1 ∧
      row.2.2.1 = lengthLabel (axisLetter e.2.1) row.2.1 ∧
      row.2.2.2.1 = lengthLabel (axisLetter e.2.2.1) row.2.1 ∧
      row.2.2.2.2 = e.2.2.2.map (fun z => lengthLabel (axisLetter z) row.2.1) := by decide

/-- every mode × length unit has its row -/
theorem labels_table_complete :
    ∀ m ∈ PlotMode.all, ∀ u ∈ lengthUnits, ∃ row ∈ Gen.PlotModes.axisLabels, row.1 = m.name ∧ row.2.1 = u := by
  decide

/-- the same for the model and *every* unit string -/
theorem labels_name_plotted_axes_model (m : PlotMode) (u : String) :
    xLabel m u = lengthLabel (axisLetter (modeIdx m).1) u ∧
    yLabel m u = lengthLabel (axisLetter (modeIdx m).2.1) u ∧
    zLabel m u = (modeIdx m).2.2.map (fun z => lengthLabel (axisLetter z) u) := by
  cases m <;> exact ⟨rfl, rfl, rfl⟩

/-- **the mode's name spells the plotted axes** (regenerated table): mode `"ab"` / `"abc"` plots
coordinate `a` on the x axis, `b` on the y axis (and `c` on the z axis) -/
theorem modeIdx_names_axes :
    ∀ e ∈ Gen.PlotModes.modeIdx,
      e.1 = axisLetter e.2.1 ++ axisLetter e.2.2.1 ++ (e.2.2.2.map axisLetter).getD "" ∧
      e.2.1 < 3 ∧ e.2.2.1 < 3 ∧ e.2.1 ≠ e.2.2.1 ∧
      ∀ z, e.2.2.2 = some z → z < 3 ∧ z ≠ e.2.1 ∧ z ≠ e.2.2.1 := by decide

/-- two different planar modes never select the same ordered pair of coordinates -/
theorem modeIdx_injective_on_2d_modes :
    ∀ a ∈ Gen.PlotModes.modeIdx, ∀ b ∈ Gen.PlotModes.modeIdx,
      a.2.2.2 = none → b.2.2.2 = none → a.2.1 = b.2.1 → a.2.2.1 = b.2.2.1 → a.1 = b.1 := by decide

/-- model form of the injectivity -/
theorem modeIdx_injective_on_2d_modes_model (a b : PlotMode) (ha : a.is2d = true) (hb : b.is2d = true)
    (h : modeIdx a = modeIdx b) : a = b := by
  -- a planar mode can be read back from its two indices
  let back : Nat × Nat × Option Nat → PlotMode
    | (0, 1, _) => xy | (0, _, _) => xz | (1, 0, _) => yx | (1, _, _) => yz | (_, 0, _) => zx | _ => zy
  have key : ∀ m : PlotMode, m.is2d = true → back (modeIdx m) = m := by intro m; cases m <;> decide
  rw [← key a ha, ← key b hb, h]

/-- a z index exists exactly in mode `xyz` (the code tests `plot_mode == PlotMode.xyz`) -/
theorem zIdx_some_iff_xyz (m : PlotMode) : (modeIdx m).2.2.isSome = true ↔ m = xyz := by
  cases m <;> simp [modeIdx]

theorem point_eq {K : Type} (m : PlotMode) (p : V3 K) :
    point m p = coord (modeIdx m).1 p :: coord (modeIdx m).2.1 p ::
      ((modeIdx m).2.2.map (fun z => coord z p)).toList := by
  cases m <;> rfl

/-- **the trajectory line**: point `k` of the line is the `modeIdx` coordinates of pose `k`;
same order, same length -/
theorem trajLine_get {K : Type} (m : PlotMode) (pos : List (V3 K)) (k : Nat) :
    (trajLine m pos)[k]? = pos[k]?.map (point m) := by
  unfold trajLine; exact List.getElem?_map

theorem trajLine_length {K : Type} (m : PlotMode) (pos : List (V3 K)) :
    (trajLine m pos).length = pos.length := by
  unfold trajLine; exact List.length_map _

/-- **start / end markers** sit at the first and the last position (none for an empty trajectory) -/
theorem startEnd_is_first_last {K : Type} (m : PlotMode) (pos : List (V3 K)) (h : 0 < pos.length) :
    startEnd m pos = some (point m pos[0], point m (pos[pos.length - 1]'(by omega))) := by
  unfold startEnd
  rw [List.head?_eq_getElem?, List.getLast?_eq_getElem?, List.getElem?_eq_getElem h,
    List.getElem?_eq_getElem (by omega)]

theorem startEnd_empty {K : Type} (m : PlotMode) : startEnd m ([] : List (V3 K)) = none := rfl

/-- **consecutive segments**: segment `k` joins elements `k` and `k+1`, and there are no others -/
theorem segments_get {α : Type} (l : List α) (k : Nat) :
    (segments l)[k]? = if h : k + 1 < l.length then some (l[k], l[k + 1]) else none := by
  unfold segments
  have := lineSegs_getElem? 1 (by omega) l k
  simpa using this

theorem segments_length {α : Type} (l : List α) : (segments l).length = l.length - 1 :=
  lineSegs_length_eq 1 (by omega) l _ fun k => by omega

/-- **the `[:-1:2]` / `[1::2]` slicing**: pair `k` consists of elements `2k` and `2k+1` -/
theorem stridePairs_get {α : Type} (l : List α) (k : Nat) :
    (stridePairs l)[k]? = if h : 2 * k + 1 < l.length then some (l[2 * k], l[2 * k + 1]) else none :=
  lineSegs_getElem? 2 (by omega) l k

theorem stridePairs_length {α : Type} (l : List α) : (stridePairs l).length = l.length / 2 :=
  lineSegs_two_length l

/-- `colored_line_collection` refuses exactly when `step > 1` and `len(xyz) ≠ step · len(colors)` -/
theorem coloredLineCollection_refuses_iff {K : Type} (m : PlotMode) (step nc : Nat) (xyz : List (V3 K)) :
    coloredLineCollection m step nc xyz = none ↔ (step > 1 ∧ xyz.length ≠ step * nc) := by
  unfold coloredLineCollection; split <;> simp_all

theorem coloredLineCollection_of_length {K : Type} (m : PlotMode) {step nc : Nat} {xyz : List (V3 K)}
    (h : xyz.length = step * nc) :
    coloredLineCollection m step nc xyz = some ((lineSegs step xyz).map (fun s => (point m s.1, point m s.2))) :=
  if_neg fun c => c.2 h

/-- **colour-mapped / marker segments**: segment `k` of an accepted collection joins the plotted
points of vertices `step·k` and `step·k + 1` -/
theorem coloredLineCollection_get {K : Type} (m : PlotMode) (step nc : Nat) (hs : 0 < step)
    (xyz : List (V3 K)) (segs : List (List K × List K))
    (h : coloredLineCollection m step nc xyz = some segs) (k : Nat) :
    segs[k]? = if h : step * k + 1 < xyz.length
      then some (point m (xyz[step * k]'(by omega)), point m xyz[step * k + 1]) else none := by
  unfold coloredLineCollection at h
  split at h
  · cases h
  · cases h
    rw [List.getElem?_map, lineSegs_getElem? step hs]
    split <;> rfl

/-- **error colours**: in `traj_colormap` segment `k` (poses `k`, `k+1`) is paired with value `k` of
the array — not shifted -/
theorem colormap_segment_value_get {K : Type} (m : PlotMode) (pos : List (V3 K)) (arr : List K) (k : Nat)
    (hk : k + 1 < pos.length) (ha : k < arr.length) :
    (colormapPairs m pos arr)[k]? = some ((point m pos[k], point m pos[k + 1]), arr[k]) := by
  unfold colormapPairs
  rw [List.getElem?_zip_eq_some, List.getElem?_map, segments_get, dif_pos hk]
  exact ⟨rfl, List.getElem?_eq_getElem ha⟩

/-- **edge `k` joins pose `k` of the first trajectory with pose `k` of the second** (never two poses
of the same trajectory); one edge per pose -/
theorem correspondence_edge_get {K : Type} (m : PlotMode) (p1 p2 : List (V3 K)) (h : p1.length = p2.length) :
    ∃ segs, corrEdges m p1 p2 = some segs ∧ segs.length = p1.length ∧
      ∀ k (hk : k < p1.length), segs[k]? = some (point m p1[k], point m (p2[k]'(by omega))) := by
  have hc := coloredLineCollection_of_length m (interleave_length p1 p2 h)
  rw [lineSegs_two_interleave] at hc
  refine ⟨_, by unfold corrEdges; rw [if_neg (by simpa using h)]; exact hc, by simp [h], fun k hk => ?_⟩
  simp [hk, h ▸ hk]

theorem correspondence_refused_when_lengths_differ {K : Type} (m : PlotMode) (p1 p2 : List (V3 K))
    (h : p1.length ≠ p2.length) : corrEdges m p1 p2 = none := by
  unfold corrEdges; rw [if_pos h]

/-- the markers are drawn (3 per pose) whenever the scale is positive -/
theorem coordAxes_drawn (m : PlotMode) (scale : Rat) (hs : 0 < scale) (poses : List (Pose Rat)) :
    ∃ segs, coordAxes m scale poses = some (some segs) ∧ segs.length = 3 * poses.length := by
  have hl := coordAxesVertices_length scale poses
  refine ⟨_, (if_neg (Rat.not_le.mpr hs)).trans (congrArg some (coloredLineCollection_of_length m hl)), ?_⟩
  rw [List.length_map, lineSegs_two_length, hl]; omega

theorem coordAxes_nothing_when_scale_nonpositive (m : PlotMode) (scale : Rat) (hs : scale ≤ 0)
    (poses : List (Pose Rat)) : coordAxes m scale poses = none := by
  unfold coordAxes; rw [if_pos hs]

/-- segment `a·n + i` (block `a` = x, y, z markers; `i` = pose) -/
theorem coordAxes_segment (m : PlotMode) (scale : Rat) (poses : List (Pose Rat))
    (segs : List (List Rat × List Rat)) (h : coordAxes m scale poses = some (some segs))
    (a i : Nat) (ha : a < 3) (hi : i < poses.length) :
    segs[a * poses.length + i]? = some (point m poses[i].t, point m (axisTip scale a poses[i])) := by
  unfold coordAxes at h
  split at h
  · cases h
  · rw [coloredLineCollection_of_length m (coordAxesVertices_length scale poses)] at h
    cases Option.some.inj (Option.some.inj h)
    rw [List.getElem?_map, coordAxesVertices_segs scale poses a i ha hi]; rfl

/-- **coordinate-frame markers start at the pose positions** -/
theorem coordAxes_start_is_position (m : PlotMode) (scale : Rat) (poses : List (Pose Rat))
    (segs : List (List Rat × List Rat)) (h : coordAxes m scale poses = some (some segs))
    (a i : Nat) (ha : a < 3) (hi : i < poses.length) :
    (segs[a * poses.length + i]?).map Prod.fst = some (point m poses[i].t) := by
  rw [coordAxes_segment m scale poses segs h a i ha hi]; rfl

/-- **… and point along the pose's own axes**: the marker of axis `a` ends at the position plus
`scale` times column `a` of the pose's rotation block; its colour index is `a` -/
theorem coordAxes_direction_is_pose_axis (m : PlotMode) (scale : Rat) (poses : List (Pose Rat))
    (segs : List (List Rat × List Rat)) (h : coordAxes m scale poses = some (some segs))
    (a i : Nat) (ha : a < 3) (hi : i < poses.length) :
    (segs[a * poses.length + i]?).map Prod.snd
        = some (point m (V3.add poses[i].t (V3.smul scale (colOf poses[i].rot a)))) ∧
    axisColorIdx poses.length (a * poses.length + i) = a := by
  refine ⟨?_, ?_⟩
  · rw [coordAxes_segment m scale poses segs h a i ha hi, axisTip_eq]; rfl
  · unfold axisColorIdx
    rw [Nat.add_comm, Nat.add_mul_div_right _ _ (by omega), Nat.div_eq_of_lt hi]; omega

/-- **shift by the start time**: with timestamps and a start time `s`, x value `k` is
`rnd (stampₖ − s)` (the stamps themselves when `s = 0`, which is the same number) -/
theorem time_axis_shift (rnd : Rat → Rat) (ts : List Rat) (s : Rat) (n k : Nat) :
    (timeAxis rnd (some ts) (some s) n)[k]? = ts[k]?.map (fun t => if s ≠ 0 then rnd (t - s) else t) := by
  unfold timeAxis
  by_cases h : s = 0 <;> simp [h]

/-- in exact arithmetic (`rnd = id`): x value `k` is `stampₖ − s`, zero start included -/
theorem time_axis_shift_exact (ts : List Rat) (s : Rat) (n k : Nat) :
    (timeAxis id (some ts) (some s) n)[k]? = ts[k]?.map (fun t => t - s) := by
  rw [time_axis_shift]
  by_cases h : s = 0
  · subst h; simp
  · simp [h]

theorem time_axis_no_start (rnd : Rat → Rat) (ts : List Rat) (n : Nat) :
    timeAxis rnd (some ts) none n = ts := rfl

/-- without timestamps the x values are the pose indices `0 … n−1` -/
theorem time_axis_index (rnd : Rat → Rat) (start : Option Rat) (n k : Nat) :
    (timeAxis rnd none start n)[k]? = if k < n then some (k : Rat) else none := by
  unfold timeAxis indexAxis
  rw [List.getElem?_map]
  split
  · next h => rw [List.getElem?_range h]; rfl
  · next h => rw [List.getElem?_eq_none_iff.mpr (by simpa using h)]; rfl

/-- **per-axis position plots**: subplot `i` shows coordinate `i` of pose `k` at x value `k` of the
time axis -/
theorem xyzSeries_get (rnd : Rat → Rat) (stamps : Option (List Rat)) (start : Option Rat)
    (pos : List (V3 Rat)) (i k : Nat) :
    (xyzSeries rnd stamps start pos i).1 = timeAxis rnd stamps start pos.length ∧
    (xyzSeries rnd stamps start pos i).2[k]? = pos[k]?.map (coord i) := by
  unfold xyzSeries; exact ⟨rfl, List.getElem?_map⟩

/-- **roll/pitch/yaw plots**: subplot `i` shows `conv(angles[k][i])` at x value `k` -/
theorem rpySeries_get (rnd conv : Rat → Rat) (stamps : Option (List Rat)) (start : Option Rat)
    (ang : List (V3 Rat)) (i k : Nat) :
    (rpySeries rnd conv stamps start ang i).1 = timeAxis rnd stamps start ang.length ∧
    (rpySeries rnd conv stamps start ang i).2[k]? = ang[k]?.map (fun a => conv (coord i a)) := by
  unfold rpySeries; exact ⟨rfl, List.getElem?_map⟩

/-- **speed `k` (between poses `k` and `k+1`) is shown at the stamp of the newer pose `k+1`** -/
theorem speed_at_newer_stamp (rnd : Rat → Rat) (ts : List Rat) (start : Option Rat) (sp : List Rat) (k : Nat) :
    (speedSeries rnd ts start sp).1[k]? = (timeAxis rnd (some ts) start ts.length)[k + 1]? ∧
    (speedSeries rnd ts start sp).2[k]? = sp[k]? := by
  unfold speedSeries
  refine ⟨?_, rfl⟩
  rw [List.getElem?_drop, Nat.add_comm]

/-- rational core of speed `k`: squared distance and time difference of poses `k`, `k+1` -/
theorem speedCores_get (pos : List (V3 Rat)) (ts : List Rat) (k : Nat)
    (hp : k + 1 < pos.length) (ht : k + 1 < ts.length) :
    (speedCores pos ts)[k]? = some (V3.normSq (V3.sub pos[k + 1] pos[k]), ts[k + 1] - ts[k]) := by
  induction k generalizing pos ts with
  | zero =>
    match pos, ts, hp, ht with
    | _ :: _ :: _, _ :: _ :: _, _, _ => rfl
  | succ k ih =>
    match pos, ts, hp, ht with
    | _ :: p2 :: ps, _ :: t2 :: tr, hp, ht =>
      exact ih (p2 :: ps) (t2 :: tr) (Nat.lt_of_succ_lt_succ hp) (Nat.lt_of_succ_lt_succ ht)

/-- **error values against the given x array, in order**; the last argument is `error_array`'s
`cumulative` (default `False`; `True` plots `np.cumsum(err_array)` instead) -/
theorem errorSeries_get (rnd : Rat → Rat) (err x : List Rat) :
    errorSeries rnd err (some x) false = (x, err) := rfl

/-- without an x array: against the index -/
theorem errorSeries_index (rnd : Rat → Rat) (err : List Rat) (k : Nat) :
    (errorSeries rnd err none false).2 = err ∧
    (errorSeries rnd err none false).1[k]? = if k < err.length then some (k : Rat) else none := by
  refine ⟨rfl, ?_⟩
  have := time_axis_index rnd none err.length k
  simpa [timeAxis, errorSeries] using this

/-! ## non-vacuity: concrete instances -/

def p0 : V3 Rat := ⟨1, 2, 3⟩
def p1 : V3 Rat := ⟨4, 5, 6⟩
def p2 : V3 Rat := ⟨7, 8, 10⟩
def q0 : Pose Rat := ⟨⟨0, -1, 0, 1, 0, 0, 0, 0, 1⟩, p0⟩

example : trajLine zx [p0, p1, p2] = [[3, 1], [6, 4], [10, 7]] := by decide
example : trajLine xyz [p0, p1] = [[1, 2, 3], [4, 5, 6]] := by decide
example : startEnd yz [p0, p1, p2] = some ([2, 3], [8, 10]) := by decide
example : segments [p0, p1, p2] = [(p0, p1), (p1, p2)] := by decide
example : stridePairs [p0, p1, p2, p0] = [(p0, p1), (p2, p0)] := by decide
example : coloredLineCollection xy 2 3 [p0, p1, p2] = none := by decide
example : corrEdges xz [p0, p1] [p2, p0] = some [([1, 3], [7, 10]), ([4, 6], [1, 3])] := by decide
example : colormapPairs xy [p0, p1, p2] [(5 : Rat), 6, 7] = [(([1, 2], [4, 5]), 5), (([4, 5], [7, 8]), 6)] := by
  decide
/-- the x marker of a pose rotated by 90° about z points along +y of the plot, the y marker along −x -/
example : coordAxes xy (1 / 2) [q0] =
    some (some [([1, 2], [1, 5 / 2]), ([1, 2], [1 / 2, 2]), ([1, 2], [1, 2])]) := by decide +kernel
example : timeAxis id (some [10, 11, 13]) (some (5 / 2)) 3 = [15 / 2, 17 / 2, 21 / 2] := by decide +kernel
example : timeAxis id none (some 3) 3 = [0, 1, 2] := by decide +kernel
example : speedSeries id [10, 11, 13] (some 10) [4, 5] = ([1, 3], [4, 5]) := by decide +kernel
example : speedCores [p0, p1, p2] [10, 11, 13] = [(27, 1), (34, 2)] := by decide +kernel
example : errorSeries id [1, 2, 4] none true = ([0, 1, 2], [1, 3, 7]) := by decide +kernel
example : prepareAxisLabels zx "mm" = some ("$z$ (mm)", "$x$ (mm)", none) := by decide
example : prepareAxisLabels zx "deg" = none := by decide

end Evo.C20
